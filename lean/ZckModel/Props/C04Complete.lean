/-
C04 — completeness of the update procedure for well-formed responses.  A round's request is groups of adjacent extents of chunks
that are missing and have stored bytes (`req_ready`, over `C04Groups.lean`), so that the server's slice for a range is the
concatenation of the stored bytes of a group; with the completeness of the callbacks (C05) one transfer marks every requested chunk
valid and changes no other mark, under any fragmentation (`round_complete`); the number of marks that are 0 falls in every round
(`loop_complete`); and with soundness the target ends as B or a collision is exhibited (`update_converges`).
Hypotheses that remain: `Honest` (`C04Text.lean`: what glibc's regex functions, a parameter of the model, do on the responses of the
model's server; one oracle meets it for every request, hence `update_converges_ref`), and that the scan marked the chunks without
stored bytes valid (in a file the writer produces only the empty dictionary entry is such a chunk).
-/
import ZckModel.Props.C04Req
import ZckModel.Props.C05MpComplete
import ZckModel.Props.C04Groups
import ZckModel.Props.C04Text
namespace Zck.C04
open Zck.Format Zck.Dl Zck.Copy Zck.C05 Zck.Update Zck.Reader

/-- the single-range path at the write callback, from any fresh context without a boundary, under every fragmentation -/
theorem single_fresh_frags (e : Env) (stored : Nat → Bytes) (st : St) (fs : List Bytes) (stop clear : Bool)
    (hf : Fresh st) (hb : st.boundary = none) (hne : e.ridx ≠ []) (hrun : RunIdx 0 e.ridx)
    (hent : ∀ r ∈ e.ridx, EntryOk e stored r ∧ r.tgt < st.valid.length ∧ st.valid.getD r.tgt 0 ≠ 1)
    (hnd : (e.ridx.map (·.tgt)).Nodup) (hfs : ∀ f ∈ fs, f ≠ []) (hcat : fs.flatten = payloadOf stored e.ridx) :
    let out := feed e stop clear st fs []
    out.1 = fs.map List.length ∧ (∀ r ∈ e.ridx, out.2.valid.getD r.tgt 0 = 1) ∧
    (∀ k, (∀ r ∈ e.ridx, r.tgt ≠ k) → out.2.valid.getD k 0 = st.valid.getD k 0) := by
  intro out
  have hout : out = feed e stop clear st fs [] := rfl
  rw [hout, C05.single_fresh_feed e stored st fs stop clear hf hb hne hrun hent hnd hfs hcat]
  have hc := C05.complete_fresh e stored st _ hf hne hrun hent hnd (Nat.le_refl _)
  dsimp only [setDl]    -- left to the unifier, the projections of `setDl _ _` make it unfold `dlWriteRange`
  exact ⟨rfl, hc.2.1, hc.2.2.2⟩

theorem feedHdrs_single (e : Env) (st : St) (l0 l1 l2 l3 : Bytes) (he : st.err = false) (hc : e.rx.comp hdrPattern = true)
    (hrx : st.hdrRx = .null) (hn : ∀ l ∈ [l0, l1, l2, l3], e.rx.hdr (cstr l) = none) :
    feedHdrs e st [l0, l1, l2, l3] [] = ([l0.length, l1.length, l2.length, l3.length], hdrReady st) := by
  show feedHdrs e (getBoundary e st l0) [l1, l2, l3] [l0.length] = _
  rw [getBoundary_none e st l0 he hc (Or.inl hrx) (hn l0 (by simp))]
  exact feedHdrs_quiet e hc _ _ _ he rfl fun l h => hn l (List.mem_cons_of_mem _ h)

theorem feedHdrs_multi (e : Env) (st : St) (l0 l1 l2 l3 : Bytes) (so eo : Nat) (he : st.err = false)
    (hc : e.rx.comp hdrPattern = true) (hrx : st.hdrRx = .null)
    (hn : ∀ l ∈ [l0, l2, l3], e.rx.hdr (cstr l) = none) (hm : e.rx.hdr (cstr l1) = some (so, eo))
    (hso : so ≤ eo ∧ eo ≤ (cstr l1).length) :
    feedHdrs e st [l0, l1, l2, l3] [] = ([l0.length, l1.length, l2.length, l3.length],
      { hdrReady st with mp := {}, boundary := some (boundaryOf (cstr l1) so eo) }) := by
  show feedHdrs e (getBoundary e (getBoundary e st l0) l1) [l2, l3] [l1.length, l0.length] = _
  rw [getBoundary_none e st l0 he hc (Or.inl hrx) (hn l0 (by simp)), getBoundary_some e (hdrReady st) l1 so eo he hc (Or.inr rfl) hm hso]
  exact feedHdrs_quiet e hc _ _ _ he rfl fun l h => hn l (List.mem_cons_of_mem _ h)
/-- the stored bytes of chunk `k` in the server's file -/
def storedOf (th : Hdr) (B : Bytes) (k : Nat) : Bytes :=
  match th.chunks[k]? with
  | some c => (B.drop (th.lead + th.headerLen + c.start)).take c.compLen
  | none => []

/-- a round's request: groups of adjacent extents of chunks that are missing and have stored bytes -/
theorem req_ready (th : Hdr) (limit : Int) (valid : List Int) (hrun : C13.RunFrom 0 0 th.chunks)
    (hbound : th.lead + th.headerLen + C13.sumLen th.chunks < 2^64)
    (hmiss : ∃ k c, th.chunks[k]? = some c ∧ valid.getD k 0 = 0 ∧ c.compLen ≠ 0) :
    ∃ gs : List (List C10.Ext), gs ≠ [] ∧ (∀ g ∈ gs, g ≠ [] ∧ Adj g) ∧ (∀ x ∈ gs.flatten, 0 < x.len ∧ ExtOk th valid x) ∧
      (reqOf th limit valid).items = gs.map spanOf ∧ (reqOf th limit valid).index = toIdx gs.flatten ∧
      (gs.flatten.map (·.number)).Nodup := by
  obtain ⟨exts, hreq, hok, hnd, hasc, hne⟩ := reqOf_spec th limit valid hrun hbound
  have hpos := C10.AscFrom.pos exts _ hasc
  obtain ⟨g1, g2, g3⟩ := specRanges_groups exts hpos
  refine ⟨groups exts, fun h => hne hmiss (by rw [← g2, h]; rfl), g3, ?_, ?_, ?_, ?_⟩
  · rw [g2]; exact fun x hx => ⟨hpos x hx, hok x hx⟩
  · rw [hreq]; exact g1
  · rw [hreq, g2]; rfl
  · rw [g2]; exact hnd

theorem specChars_ne (items : List (Nat × Nat)) (h : items ≠ []) : C10.specChars items ≠ [] := by
  match items, h with
  | [p], _ => simp [C10.specChars]
  | p :: q :: r, _ => simp [C10.specChars]

theorem rtext_nonempty (items : List (Nat × Nat)) (h : items ≠ []) : ((Range.render items).getD "").isEmpty = false := by
  rw [C10.render_exact items h]
  have := specChars_ne items h
  cases hc : C10.specChars items with
  | nil => exact absurd hc this
  | cons a r =>
    simp [String.isEmpty]
    intro h0
    have := Char.utf8Size_pos a
    omega

theorem clip_ok (total : Nat) (items : List (Nat × Nat)) (hne : items ≠ []) (h : ∀ p ∈ items, p.1 ≤ p.2 ∧ p.2 < total) :
    clip total items = some items := by
  unfold clip
  rw [List.isEmpty_eq_false_iff.mpr hne, if_neg Bool.false_ne_true]
  refine (mapM_eq_some_map _ id items fun p hp => ?_).trans (congrArg some (List.map_id _))
  have := h p hp
  dsimp only at this ⊢
  rw [if_neg (by omega), if_neg (by omega)]
  rfl

theorem part_ok (rx : Rx) (n : Nat) (B : Bytes) (r : Nat × Nat) (h1 : r.1 ≤ r.2) (h2 : r.2 < B.length) (hB : B.length < W64)
    (hf : C05.RxFinds rx (partPattern (boundary n)) (partHdr n B.length r) (r.2 - r.1 + 1)) :
    PartOk rx (partPattern (boundary n)) ⟨partHdr n B.length r, sliceIncl B r⟩ := by
  have hlen := sliceIncl_length B r h1 h2
  refine ⟨partHdr_noEarly n B.length r, fun h => ?_, ?_, ?_⟩
  · rw [show (Part.mk (partHdr n B.length r) (sliceIncl B r)).payload = sliceIncl B r from rfl] at h
    rw [h] at hlen
    exact absurd hlen (by simp)
  · show (sliceIncl B r).length < W64
    omega
  · show ∃ a1 b1 a2 b2, _ ∧ _ ∧ _ ∧ _ ∧ _ ∧ _ = (sliceIncl B r).length
    rw [hlen]
    exact hf

theorem accepted_lengths (fs : List Bytes) : accepted (fs.map List.length) fs = true := by
  unfold accepted
  simp only [List.length_map, beq_self_eq_true, Bool.true_and]
  induction fs with
  | nil => rfl
  | cons f fs ih => simp [List.zip_cons_cons, ih]

theorem ext_in_B (H : HashFn) (rx : Rx) (th : Hdr) (B : Bytes) (valid : List Int) (hB : AllPresent (envOf H rx th []) B)
    (x : C10.Ext) (h : ExtOk th valid x) :
    storedOf th B x.number = (B.drop x.start).take x.len ∧ (storedOf th B x.number).length = x.len ∧
    x.start + x.len ≤ B.length ∧ ∃ c, th.chunks[x.number]? = some c ∧ c.compLen = x.len ∧
      H th.chunkHashType (storedOf th B x.number) = some c.digest := by
  obtain ⟨c, h1, _, h3, h4, h5⟩ := h
  have := hB x.number c h1 (by rw [h3]; exact h4)
  unfold ChunkOk at this
  rw [if_neg (by rw [h3]; exact h4)] at this
  have hoff : (envOf H rx th []).dataOff = th.lead + th.headerLen := rfl
  rw [hoff, h3, ← h5] at this
  have hst : storedOf th B x.number = (B.drop x.start).take x.len := by
    unfold storedOf
    rw [h1]
    dsimp only
    rw [h3, h5]
  refine ⟨hst, ?_, this.1, c, h1, h3, hst ▸ this.2⟩
  rw [hst]
  exact List.length_take_of_le (List.length_drop ▸ Nat.le_sub_of_add_le' this.1)

theorem fresh_st0 (file : Bytes) (valid : List Int) : Fresh ({ file := file, pos := 0, valid := valid } : St) :=
  ⟨rfl, rfl, rfl, rfl, rfl⟩

/-- a session whose header lines and body fragments are all taken whole -/
theorem session_accepted (e : Env) (file : Bytes) (valid : List Int) (lines fr : List Bytes) (st1 : St)
    (hh : feedHdrs e { file := file, pos := 0, valid := valid } lines [] = (lines.map List.length, st1))
    (hf : (feed e true false st1 fr []).1 = fr.map List.length) :
    let s := session e file valid lines fr
    accepted s.1 lines = true ∧ accepted s.2.1 fr = true ∧ s.2.2 = (feed e true false st1 fr []).2 := by
  unfold session
  simp only [hh, hf]
  exact ⟨accepted_lengths lines, accepted_lengths fr, trivial⟩

theorem session_single (e : Env) (stored : Nat → Bytes) (file : Bytes) (valid : List Int) (l0 l1 l2 l3 : Bytes) (fr : List Bytes)
    (hc : e.rx.comp hdrPattern = true) (hn : ∀ l ∈ [l0, l1, l2, l3], e.rx.hdr (cstr l) = none)
    (hne : e.ridx ≠ []) (hrun : RunIdx 0 e.ridx)
    (hent : ∀ r ∈ e.ridx, EntryOk e stored r ∧ r.tgt < valid.length ∧ valid.getD r.tgt 0 ≠ 1)
    (hnd : (e.ridx.map (·.tgt)).Nodup) (hfs : ∀ f ∈ fr, f ≠ []) (hcat : fr.flatten = payloadOf stored e.ridx) :
    let s := session e file valid [l0, l1, l2, l3] fr
    accepted s.1 [l0, l1, l2, l3] = true ∧ accepted s.2.1 fr = true ∧
    (∀ r ∈ e.ridx, s.2.2.valid.getD r.tgt 0 = 1) ∧
    (∀ k, (∀ r ∈ e.ridx, r.tgt ≠ k) → s.2.2.valid.getD k 0 = valid.getD k 0) := by
  intro s
  obtain ⟨a1, a2, a3⟩ := single_fresh_frags e stored (hdrReady { file := file, pos := 0, valid := valid }) fr true false
    ⟨rfl, rfl, rfl, rfl, rfl⟩ rfl hne hrun hent hnd hfs hcat
  obtain ⟨b1, b2, b3⟩ := session_accepted e file valid _ fr _ (feedHdrs_single e _ l0 l1 l2 l3 rfl hc rfl hn) a1
  exact ⟨b1, b2, b3 ▸ a2, b3 ▸ a3⟩

theorem session_multi (e : Env) (hd : Disj e) (stored : Nat → Bytes) (file : Bytes) (valid : List Int) (l0 l1 l2 l3 : Bytes)
    (bnd : Bytes) (so eo : Nat) (ps : List Part) (gs : List (List RChunk)) (trailer : Bytes) (fr : List Bytes)
    (hc : e.rx.comp hdrPattern = true) (hn : ∀ l ∈ [l0, l2, l3], e.rx.hdr (cstr l) = none)
    (hm : e.rx.hdr (cstr l1) = some (so, eo)) (hso : so ≤ eo ∧ eo ≤ (cstr l1).length) (hb : boundaryOf (cstr l1) so eo = bnd)
    (h1 : e.rx.comp (partPattern bnd) = true) (h2 : e.rx.comp (endPattern bnd) = true)
    (hpay : ps.map (·.payload) = gs.map (payloadOf stored)) (hgne : ∀ g ∈ gs, g ≠ []) (hne : gs ≠ [])
    (hridx : e.ridx = gs.flatten) (hrun : RunIdx 0 e.ridx)
    (hent : ∀ r ∈ e.ridx, EntryOk e stored r ∧ r.tgt < valid.length ∧ valid.getD r.tgt 0 ≠ 1)
    (hnd : (e.ridx.map (·.tgt)).Nodup) (hok : ∀ p ∈ ps, PartOk e.rx (partPattern bnd) p) (htr : NoHeader trailer)
    (hfs : ∀ f ∈ fr, f ≠ []) (hcat : fr.flatten = partsBytes ps ++ trailer) :
    let s := session e file valid [l0, l1, l2, l3] fr
    accepted s.1 [l0, l1, l2, l3] = true ∧ accepted s.2.1 fr = true ∧
    (∀ r ∈ e.ridx, s.2.2.valid.getD r.tgt 0 = 1) ∧
    (∀ k, (∀ r ∈ e.ridx, r.tgt ≠ k) → s.2.2.valid.getD k 0 = valid.getD k 0) := by
  intro s
  obtain ⟨a1, a2, a3, _, _⟩ := multipart_complete_frags_null e hd stored
    ({ hdrReady { file := file, pos := 0, valid := valid } with mp := {}, boundary := some bnd } : St) ps gs trailer fr true false
    ⟨rfl, rfl, rfl, rfl, rfl⟩ rfl rfl rfl h1 h2 hpay hgne hne hridx hrun hent hnd hok htr hfs hcat
  obtain ⟨b1, b2, b3⟩ := session_accepted e file valid _ fr _ (hb ▸ feedHdrs_multi e _ l0 l1 l2 l3 so eo rfl hc rfl hn hm hso) a1
  exact ⟨b1, b2, b3 ▸ a2, b3 ▸ a3⟩

theorem round_of_session (n : Nat) (H : HashFn) (rx : Rx) (B : Bytes) (th : Hdr) (limit : Int) (frag : Nat) (file : Bytes)
    (valid : List Int) (rs : List (Nat × Nat)) (hi : (reqOf th limit valid).items ≠ [])
    (hclip : clip B.length (reqOf th limit valid).items = some rs) :
    let s := session { H := H, rx := rx, hdr := th, ridx := mkRidx (reqOf th limit valid).index 0 } file valid
      (respond n B rs).1 (pieces frag (respond n B rs).2)
    accepted s.1 (respond n B rs).1 = true →
    ∃ r, Update.round n H rx B th limit frag none file valid =
      (r, some (s.2.2.file, s.2.2.valid, accepted s.2.1 (pieces frag (respond n B rs).2))) := by
  intro s hacc
  unfold Update.round
  simp only [List.isEmpty_eq_false_iff.mpr hi, rtext_nonempty _ hi, Bool.false_eq_true, ↓reduceIte, hclip, cutBody]
  rw [if_neg (by rw [hacc]; simp)]
  exact ⟨_, rfl⟩

/-- the request index of `e` lists chunks of the header that are still missing, each once, with running payload offsets: what the
completeness theorems of the download callbacks ask of a request -/
structure ReqOk (e : Env) (stored : Nat → Bytes) (valid : List Int) : Prop where
  run : RunIdx 0 e.ridx
  ent : ∀ r ∈ e.ridx, EntryOk e stored r ∧ r.tgt < valid.length ∧ valid.getD r.tgt 0 ≠ 1
  nd  : (e.ridx.map (·.tgt)).Nodup

/-- the session takes every header line and every body fragment whole, marks every chunk of the request index valid and leaves
the other marks as they were -/
def SessionOk (e : Env) (file : Bytes) (valid : List Int) (lines fr : List Bytes) : Prop :=
  let s := session e file valid lines fr
  accepted s.1 lines = true ∧ accepted s.2.1 fr = true ∧ (∀ r ∈ e.ridx, s.2.2.valid.getD r.tgt 0 = 1) ∧
  (∀ k, (∀ r ∈ e.ridx, r.tgt ≠ k) → s.2.2.valid.getD k 0 = valid.getD k 0)

/-- the environment of a request for the extents `xs` of missing chunks that `B` holds -/
theorem reqEnv_ok (H : HashFn) (rx : Rx) (th : Hdr) (B : Bytes) (valid : List Int) (xs : List C10.Ext)
    (hB : AllPresent (envOf H rx th []) B) (hvl : valid.length = th.chunks.length)
    (hx : ∀ x ∈ xs, 0 < x.len ∧ ExtOk th valid x) (hnd : (xs.map (·.number)).Nodup) :
    ReqOk { H := H, rx := rx, hdr := th, ridx := mkRidx (toIdx xs) 0 } (storedOf th B) valid where
  run := runIdx_mkRidx _ _ fun p hp => by
    obtain ⟨x, hx', rfl⟩ := List.mem_map.mp hp
    exact (hx x hx').1
  ent r hr := by
    obtain ⟨x, hx', h1, h2⟩ := mem_mkRidx _ _ r hr
    obtain ⟨_, hsl, _, c, hc1, hc2, hc3⟩ := ext_in_B H rx th B valid hB x (hx x hx').2
    obtain ⟨_, _, hv0, _, _, _⟩ := (hx x hx').2
    refine ⟨⟨c, h1 ▸ hc1, by rw [h2, hc2], by rw [h1, hsl, h2], h1 ▸ hc3⟩, ?_, by rw [h1, hv0]; decide⟩
    rw [h1, hvl]
    exact lt_length_of_getElem? hc1
  nd := by rw [mkRidx_tgts, toIdx, List.map_map]; exact hnd

/-- a group of adjacent extents of chunks that `B` holds: its span lies in `B`, and the slice the server sends for it is the stored
bytes of its chunks, one after the other -/
theorem group_in_B (H : HashFn) (rx : Rx) (th : Hdr) (B : Bytes) (valid : List Int) (hB : AllPresent (envOf H rx th []) B)
    (g : List C10.Ext) (hne : g ≠ []) (ha : Adj g) (hx : ∀ x ∈ g, 0 < x.len ∧ ExtOk th valid x) :
    ((spanOf g).1 ≤ (spanOf g).2 ∧ (spanOf g).2 < B.length) ∧
    sliceIncl B (spanOf g) = (g.map fun x => storedOf th B x.number).flatten := by
  refine ⟨span_bounds B g hne ha (fun x hx' => (hx x hx').1) fun x hx' => (ext_in_B H rx th B valid hB x (hx x hx').2).2.2.1, ?_⟩
  rw [sliceIncl_group B g hne ha fun x hx' => (hx x hx').1]
  exact congrArg List.flatten (List.map_congr_left fun x hx' => (ext_in_B H rx th B valid hB x (hx x hx').2).1.symm)

/-- one range: the body is the payload of the request index, sent plain -/
theorem respond_single (e : Env) (stored : Nat → Bytes) (n frag : Nat) (B file : Bytes) (valid : List Int) (g : List C10.Ext)
    (hne : g ≠ []) (hridx : e.ridx = mkRidx (toIdx g) 0) (hr : ReqOk e stored valid)
    (hsl : sliceIncl B (spanOf g) = (g.map fun x => stored x.number).flatten) (hon : Honest e.rx n B.length [spanOf g]) :
    SessionOk e file valid (respond n B [spanOf g]).1 (pieces frag (respond n B [spanOf g]).2) := by
  have hps := pieces_spec frag (sliceIncl B (spanOf g))
  refine session_single e stored file valid _ _ _ _ _ hon.comp (hon.single (spanOf g) rfl) ?_ hr.run hr.ent hr.nd hps.2
    (hps.1.trans (by rw [hsl, hridx, payloadOf_mkRidx]))
  rw [hridx]
  cases g with
  | nil => exact absurd rfl hne
  | cons a r => simp [toIdx, mkRidx]

/-- several ranges: a multipart body whose parts are the payloads of the groups of the request index -/
theorem respond_multi (e : Env) (hd : Disj e) (stored : Nat → Bytes) (n frag : Nat) (B file : Bytes) (valid : List Int)
    (gs : List (List C10.Ext)) (h2 : 2 ≤ gs.length) (hg : ∀ g ∈ gs, g ≠ [])
    (hgB : ∀ g ∈ gs, ((spanOf g).1 ≤ (spanOf g).2 ∧ (spanOf g).2 < B.length) ∧
      sliceIncl B (spanOf g) = (g.map fun x => stored x.number).flatten)
    (hridx : e.ridx = (mkGroups gs 0).flatten) (hr : ReqOk e stored valid)
    (hon : Honest e.rx n B.length (gs.map spanOf)) (hBsmall : B.length < W64) :
    SessionOk e file valid (respond n B (gs.map spanOf)).1 (pieces frag (respond n B (gs.map spanOf)).2) := by
  have hlen1 : (gs.map spanOf).length ≠ 1 := by rw [List.length_map]; omega
  have hgne : mkGroups gs 0 ≠ [] := by
    cases gs with
    | nil => simp at h2
    | cons g rest => simp [mkGroups]
  generalize hits : gs.map spanOf = items at hon hlen1
  have hitm : ∀ r ∈ items, ∃ g ∈ gs, r = spanOf g := by
    intro r hr; rw [← hits] at hr; obtain ⟨g, hg', rfl⟩ := List.mem_map.mp hr; exact ⟨g, hg', rfl⟩
  have hresp : respond n B items =
      (mpLines n ((items.map fun r => partHdr n B.length r ++ Update.crlf2 ++ sliceIncl B r).flatten ++ closing n).length,
       (items.map fun r => partHdr n B.length r ++ Update.crlf2 ++ sliceIncl B r).flatten ++ closing n) := by
    match items, hlen1 with
    | [], _ => rfl
    | [_], h => exact absurd rfl h
    | _ :: _ :: _, _ => rfl
  rw [hresp]
  generalize hbody : (items.map fun r => partHdr n B.length r ++ Update.crlf2 ++ sliceIncl B r).flatten ++ closing n = body
  obtain ⟨hnone, so, eo, hm, hso1, hso2, hbnd⟩ := hon.multi hlen1 body.length _ _ _ _ rfl
  have hps := pieces_spec frag body
  let ps : List Part := items.map fun r => (⟨partHdr n B.length r, sliceIncl B r⟩ : Part)
  have hpsb : partsBytes ps ++ closing n = body := by
    rw [← hbody]
    simp only [partsBytes, ps, List.map_map]
    rfl
  have hpay : ps.map (·.payload) = (mkGroups gs 0).map (payloadOf stored) := by
    rw [mkGroups_payload]
    simp only [ps, List.map_map]
    rw [← hits, List.map_map]
    exact List.map_congr_left fun g hg' => (hgB g hg').2
  have hok : ∀ p ∈ ps, PartOk e.rx (partPattern (boundary n)) p := by
    intro p hp
    obtain ⟨r, hr', rfl⟩ := List.mem_map.mp hp
    obtain ⟨g, hg', rfl⟩ := hitm r hr'
    have hsp := (hgB g hg').1
    exact part_ok e.rx n B _ hsp.1 hsp.2 hBsmall (hon.parts _ hr' hsp.1 (Nat.lt_of_le_of_lt (Nat.succ_le_of_lt hsp.2) hBsmall))
  exact session_multi e hd stored file valid _ _ _ _ (boundary n) so eo ps (mkGroups gs 0) (closing n) _
    hon.comp hnone hm ⟨hso1, hso2⟩ hbnd hon.compP hon.compE hpay (mkGroups_ne _ 0 hg) hgne hridx hr.run hr.ent hr.nd hok
    (closing_noHeader n) hps.2 (by rw [hps.1, hpsb])

/-- one round with a well-formed response: the round is carried out, every body fragment is accepted, every requested chunk ends
up marked valid, no other mark changes, and something was requested -/
theorem round_complete (n : Nat) (H : HashFn) (rx : Rx) (B : Bytes) (th : Hdr) (limit : Int) (frag : Nat) (file : Bytes)
    (valid : List Int) (hrun : C13.RunFrom 0 0 th.chunks)
    (hbound : th.lead + th.headerLen + C13.sumLen th.chunks < 2^64) (hBsmall : B.length < W64)
    (hB : AllPresent (envOf H rx th []) B) (hvl : valid.length = th.chunks.length)
    (hmiss : ∃ k c, th.chunks[k]? = some c ∧ valid.getD k 0 = 0 ∧ c.compLen ≠ 0)
    (hon : Honest rx n B.length (reqOf th limit valid).items) :
    ∃ r f v, Update.round n H rx B th limit frag none file valid = (r, some (f, v, true)) ∧
      (reqOf th limit valid).index ≠ [] ∧
      (∀ p ∈ (reqOf th limit valid).index, v.getD p.1 0 = 1) ∧
      (∀ k, (∀ p ∈ (reqOf th limit valid).index, p.1 ≠ k) → v.getD k 0 = valid.getD k 0) := by
  -- the request: the spans of groups of adjacent extents of missing chunks, which `B` holds
  obtain ⟨gs, hgne, hg, hx, hitems, hindex, hnd⟩ := req_ready th limit valid hrun hbound hmiss
  have hgB := fun g hg' => group_in_B H rx th B valid hB g (hg g hg').1 (hg g hg').2
    fun x hx' => hx x (List.mem_flatten.mpr ⟨g, hg', hx'⟩)
  have hitemsne : (reqOf th limit valid).items ≠ [] := by
    rw [hitems]; intro h; exact hgne (List.map_eq_nil_iff.mp h)
  -- the server clips nothing
  have hclip : clip B.length (reqOf th limit valid).items = some (gs.map spanOf) := by
    rw [hitems]
    refine clip_ok _ _ (hitems ▸ hitemsne) fun p hp => ?_
    obtain ⟨g, hg', rfl⟩ := List.mem_map.mp hp
    exact (hgB g hg').1
  -- the download callbacks take its response whole, whether it has one range or several
  have hr := reqEnv_ok H rx th B valid gs.flatten hB hvl hx hnd
  rw [← hindex] at hr
  generalize he : ({ H := H, rx := rx, hdr := th, ridx := mkRidx (reqOf th limit valid).index 0 } : Env) = e at hr
  have hridx : e.ridx = mkRidx (toIdx gs.flatten) 0 := by rw [← he, hindex]
  have hon' : Honest e.rx n B.length (gs.map spanOf) := by rw [← he, ← hitems]; exact hon
  have hsess : SessionOk e file valid (respond n B (gs.map spanOf)).1 (pieces frag (respond n B (gs.map spanOf)).2) := by
    rcases gs with _ | ⟨g, _ | ⟨g2, rest⟩⟩
    · exact absurd rfl hgne
    · exact respond_single e _ n frag B file valid g (hg g (by simp)).1 (by simpa using hridx) hr (hgB g (by simp)).2 hon'
    · exact respond_multi e (he ▸ disj_of_runFrom _ hrun) _ n frag B file valid _ (by simp) (fun g h => (hg g h).1) hgB
        (hridx.trans (mkGroups_flatten _ 0).symm) hr hon' hBsmall
  obtain ⟨a1, a2, a3, a4⟩ := hsess
  obtain ⟨r, hrd⟩ := round_of_session n H rx B th limit frag file valid (gs.map spanOf) hitemsne hclip (by rw [he]; exact a1)
  rw [he] at hrd
  -- from the entries of the request index to the pairs of the request
  have hri : e.ridx = mkRidx (reqOf th limit valid).index 0 := by rw [← he]
  rw [hri] at a3 a4
  refine ⟨r, _, _, by rw [hrd, a2], ?_, fun p hp => ?_, fun k hk => a4 k fun r' hr' heq => ?_⟩
  · rw [hindex]; intro h
    obtain ⟨g, hg'⟩ := List.exists_mem_of_ne_nil gs hgne
    exact (hg g hg').1 (List.flatten_eq_nil_iff.mp (List.map_eq_nil_iff.mp h) g hg')
  · obtain ⟨r', hr', e'⟩ := (mem_mkRidx_tgt _ 0 p.1).mpr ⟨p, hp, rfl⟩
    rw [← e']; exact a3 r' hr'
  · obtain ⟨p, hp, e'⟩ := (mem_mkRidx_tgt _ 0 k).mp ⟨r', hr', heq⟩
    exact hk p hp e'

theorem vlen_preserved (e : Env) (n : Nat) : Preserved e (fun st => st.valid.length = n) :=
  preserved_of_file_valid e (fun _ v => v.length = n) (fun _ _ _ _ h => h) (fun _ v k x h => by rw [List.length_set]; exact h)

theorem round_vlen (n : Nat) (H : HashFn) (rx : Rx) (B : Bytes) (th : Hdr) (limit : Int) (frag : Nat) (cut : Option Nat)
    (file : Bytes) (valid : List Int) (r : String) (f : Bytes) (v : List Int) (ok : Bool)
    (h : Update.round n H rx B th limit frag cut file valid = (r, some (f, v, ok))) : v.length = valid.length := by
  obtain ⟨ridx, lines, frags, _, rfl⟩ := round_some n H rx B th limit frag cut file valid r f v ok h
  unfold session
  exact pres_session _ (vlen_preserved _ valid.length) true false lines frags { file := file, pos := 0, valid := valid } rfl

theorem countEq_eq_count (v : List Int) (x : Int) : countEq v x = v.count x := by
  rw [countEq, List.count, List.countP_eq_length_filter]

theorem countEq_le : ∀ (a b : List Int), a.length = b.length →
    (∀ k, b.getD k 0 = a.getD k 0 ∨ (a.getD k 0 = 0 ∧ b.getD k 0 = 1)) →
    countEq b 0 ≤ countEq a 0 ∧
    ((∃ k, k < a.length ∧ a.getD k 0 = 0 ∧ b.getD k 0 = 1) → countEq b 0 < countEq a 0)
  | [], [], _, _ => ⟨Nat.le_refl _, fun ⟨k, hk, _⟩ => by simp at hk⟩
  | [], _ :: _, h, _ => by simp at h
  | _ :: _, [], h, _ => by simp at h
  | x :: a, y :: b, hl, hk => by
    have ih := countEq_le a b (Nat.succ.inj hl) (fun k => hk (k + 1))
    have h0 := hk 0
    simp only [List.getD_cons_zero] at h0
    rw [countEq_eq_count, countEq_eq_count] at ih ⊢
    rw [List.count_cons, List.count_cons]
    refine ⟨?_, ?_⟩
    · rcases h0 with h | ⟨h1, h2⟩
      · rw [h]; have := ih.1; omega
      · rw [h1, h2]; have := ih.1; simp; omega
    · rintro ⟨k, hkl, hk1, hk2⟩
      cases k with
      | zero =>
        simp only [List.getD_cons_zero] at hk1 hk2
        rw [hk1, hk2]; have := ih.1; simp; omega
      | succ k' =>
        have := ih.2 ⟨k', by simpa using hkl, by simpa using hk1, by simpa using hk2⟩
        rcases h0 with h | ⟨h1, h2⟩
        · rw [h]; omega
        · rw [h1, h2]; simp; omega

theorem countEq_pos (v : List Int) (h : countEq v 0 ≠ 0) : ∃ k, k < v.length ∧ v.getD k 0 = 0 := by
  rw [countEq_eq_count, Ne, List.count_eq_zero, Classical.not_not] at h
  obtain ⟨k, hk, hv⟩ := List.mem_iff_getElem.mp h
  exact ⟨k, hk, by rw [List.getD_eq_getElem?_getD, List.getElem?_eq_getElem hk]; exact hv⟩

/-- the marks at the start of a round: one per chunk, each 0 (missing) or 1 (valid), chunks without stored bytes valid -/
structure Marks (th : Hdr) (valid : List Int) : Prop where
  len  : valid.length = th.chunks.length
  bin  : ∀ k, valid.getD k 0 = 0 ∨ valid.getD k 0 = 1
  zero : ∀ k c, th.chunks[k]? = some c → c.compLen = 0 → valid.getD k 0 = 1

/-- as long as a mark is 0, a chunk with stored bytes is missing -/
theorem Marks.missing {th : Hdr} {valid : List Int} (hm : Marks th valid) (h0 : countEq valid 0 ≠ 0) :
    ∃ k c, th.chunks[k]? = some c ∧ valid.getD k 0 = 0 ∧ c.compLen ≠ 0 := by
  obtain ⟨k, hk1, hk2⟩ := countEq_pos valid h0
  have hkc : k < th.chunks.length := hm.len ▸ hk1
  refine ⟨k, th.chunks[k], List.getElem?_eq_getElem hkc, hk2, fun hz => ?_⟩
  have := hm.zero k th.chunks[k] (List.getElem?_eq_getElem hkc) hz
  omega

/-- marking the chunks `idx` lists, which were missing, and no others keeps `Marks` and leaves fewer marks 0 -/
theorem Marks.step {th : Hdr} {valid v : List Int} (hm : Marks th valid) (hvl : v.length = valid.length)
    (idx : List (Nat × Nat)) (hidx : idx ≠ [])
    (hreq : ∀ p ∈ idx, ∃ c, th.chunks[p.1]? = some c ∧ valid.getD p.1 0 = 0 ∧ c.compLen ≠ 0)
    (hv1 : ∀ p ∈ idx, v.getD p.1 0 = 1) (hv2 : ∀ k, (∀ p ∈ idx, p.1 ≠ k) → v.getD k 0 = valid.getD k 0) :
    Marks th v ∧ countEq v 0 < countEq valid 0 := by
  have hstep : ∀ j, v.getD j 0 = valid.getD j 0 ∨ (valid.getD j 0 = 0 ∧ v.getD j 0 = 1) := by
    intro j
    by_cases hj : ∃ p ∈ idx, p.1 = j
    · obtain ⟨p, hp, rfl⟩ := hj
      obtain ⟨c, _, hc0, _⟩ := hreq p hp
      exact Or.inr ⟨hc0, hv1 p hp⟩
    · exact Or.inl (hv2 j (fun p hp heq => hj ⟨p, hp, heq⟩))
  refine ⟨⟨by rw [hvl, hm.len], fun j => ?_, fun j c hc hz => ?_⟩, (countEq_le valid v hvl.symm hstep).2 ?_⟩
  · rcases hstep j with h | ⟨_, h⟩
    · rw [h]; exact hm.bin j
    · exact Or.inr h
  · rcases hstep j with h | ⟨_, h⟩
    · rw [h]; exact hm.zero j c hc hz
    · exact h
  · obtain ⟨p, hp⟩ := List.exists_mem_of_ne_nil idx hidx
    obtain ⟨c, hc, hc0, _⟩ := hreq p hp
    exact ⟨p.1, hm.len ▸ lt_length_of_getElem? hc, hc0, hv1 p hp⟩

/-- the fetch loop ends with everything valid when every response is well formed: by induction over the number of marks that are
still 0, which every round reduces -/
theorem loop_complete (H : HashFn) (rx : Rx) (B : Bytes) (th : Hdr) (limit : Int) (frag : Nat)
    (hrun : C13.RunFrom 0 0 th.chunks) (hbound : th.lead + th.headerLen + C13.sumLen th.chunks < 2^64)
    (hBsmall : B.length < W64) (hB : AllPresent (envOf H rx th []) B)
    (hon : ∀ n valid', Marks th valid' → Honest rx (n + 1) B.length (reqOf th limit valid').items) :
    ∀ (fuel : Nat) (file : Bytes) (valid : List Int) (reqs : List String) (n : Nat), Marks th valid → countEq valid 0 < fuel →
    let out := Update.loop H rx B th limit frag none fuel file valid reqs n
    out.2.2.2.2 = none ∧ Marks th out.2.1 ∧ countEq out.2.1 0 = 0
  | 0, _, _, _, _, _, hf => by omega
  | fuel + 1, file, valid, reqs, n, hm, hf => by
    intro out
    have hout : out = Update.loop H rx B th limit frag none (fuel + 1) file valid reqs n := rfl
    unfold Update.loop at hout
    by_cases h0 : countEq valid 0 = 0
    · rw [if_pos h0] at hout
      rw [hout]
      exact ⟨rfl, hm, h0⟩
    rw [if_neg h0] at hout
    obtain ⟨r, f, v, hr, hidx, hv1, hv2⟩ := round_complete (n + 1) H rx B th limit frag file valid hrun hbound hBsmall hB hm.len
      (hm.missing h0) (hon n valid hm)
    dsimp only at hout
    rw [hr] at hout
    dsimp only at hout
    obtain ⟨hm', hlt⟩ := hm.step (round_vlen _ H rx B th limit frag none file valid r f v true hr) _ hidx
      (request_only_missing th limit valid hrun hbound) hv1 hv2
    rw [hout]
    exact loop_complete H rx B th limit frag hrun hbound hBsmall hB hon fuel f v (r :: reqs) (n + 1) hm' (by omega)

theorem marks_all_valid (th : Hdr) (v : List Int) (hm : Marks th v) (h0 : countEq v 0 = 0) :
    (v.length == th.chunks.length && v.all (· == 1)) = true := by
  rw [countEq_eq_count, List.count_eq_zero] at h0
  simp only [Bool.and_eq_true, beq_iff_eq, List.all_eq_true]
  refine ⟨hm.len, fun x hx => ?_⟩
  obtain ⟨k, hk, rfl⟩ := List.mem_iff_getElem.mp hx
  have h2 := hm.bin k
  simp only [List.getD_eq_getElem?_getD, List.getElem?_eq_getElem hk, Option.getD_some] at h2
  rcases h2 with h | h
  · exact absurd (h ▸ hx) h0
  · rw [h]

theorem countEq_le_length (v : List Int) (x : Int) : countEq v x ≤ v.length := by
  rw [countEq_eq_count]; exact List.count_le_length

/-- the fuel `afterHeader` gives the fetch loop exceeds the number of marks that are 0 -/
theorem Marks.fuel {th : Hdr} {valid : List Int} (hm : Marks th valid) : countEq valid 0 < th.chunks.length + 3 := by
  rw [← hm.len]; exact Nat.lt_of_le_of_lt (countEq_le_length valid 0) (Nat.lt_add_of_pos_right (by decide))

/-- C04, completeness of the procedure after the header is in place: for ANY old file, limit and fragment size it ends WITHOUT
error and with EVERY chunk marked valid, when the scan has left something to do (`hsc0`, `hsc1`), the marks after scan, copy and
reset are `Marks`, `B` has every chunk of the index present and every response is well formed (`Honest`) -/
theorem afterHeader_complete (H : HashFn) (rx : Rx) (A : Option Bytes) (B : Bytes) (limit : Int) (frag : Nat) (o : Out)
    (t2 : Bytes) (th : Hdr) (hrun : C13.RunFrom 0 0 th.chunks)
    (hbound : th.lead + th.headerLen + C13.sumLen th.chunks < 2^64) (ho : o.err = none)
    (hsc0 : (Reader.validateChecksums H t2 (Reader.openCtx th)).1 ≠ 0)
    (hsc1 : (Reader.validateChecksums H t2 (Reader.openCtx th)).1 ≠ 1)
    (hmarks : Marks th (resetFailed (copyFrom H A th ⟨t2, (Reader.validateChecksums H t2 (Reader.openCtx th)).2.valid⟩).valid))
    (hBsmall : B.length < W64) (hB : AllPresent (envOf H rx th []) B)
    (hon : ∀ n valid', Marks th valid' → Honest rx (n + 1) B.length (reqOf th limit valid').items) :
    let out := afterHeader H rx A B limit frag none o t2 th
    out.err = none ∧ out.allValid = true := by
  intro out
  have hout : out = afterHeader H rx A B limit frag none o t2 th := rfl
  unfold afterHeader at hout
  simp only [hsc0, hsc1, ↓reduceIte] at hout
  generalize copyFrom H A th ⟨t2, (Reader.validateChecksums H t2 (Reader.openCtx th)).2.valid⟩ = t at hmarks hout
  have hl := loop_complete H rx B th limit frag hrun hbound hBsmall hB hon (th.chunks.length + 3) t.f (resetFailed t.valid) [] 0
    hmarks hmarks.fuel
  generalize Update.loop H rx B th limit frag none (th.chunks.length + 3) t.f (resetFailed t.valid) [] 0 = r at hl hout
  obtain ⟨h1, h2, h3⟩ := hl
  rw [h1] at hout
  rw [hout]
  unfold finish
  exact ⟨ho, marks_all_valid th r.2.1 h2 h3⟩

/-- `afterHeader_complete` and `update_yields_B` together -/
theorem update_complete (H : HashFn) (rx : Rx) (A : Option Bytes) (B : Bytes) (limit : Int) (frag : Nat) (o : Out)
    (t2 : Bytes) (th : Hdr) (hh : HdrOk H t2 th) (ho : o.err = none)
    (hA : ∀ a ah, A = some a → Header.openFile H a = .ok ah → ah.chunkHashType = th.chunkHashType)
    (hBlen : B.length = th.lead + th.headerLen + th.dataLen)
    (hBhdr : ∀ i, i < th.lead + th.headerLen → B.getD i 0 = t2.getD i 0)
    (hBok : AllPresent (envOf H rx th []) B)
    (hsc0 : (Reader.validateChecksums H t2 (Reader.openCtx th)).1 ≠ 0)
    (hsc1 : (Reader.validateChecksums H t2 (Reader.openCtx th)).1 ≠ 1)
    (hmarks : Marks th (resetFailed (copyFrom H A th ⟨t2, (Reader.validateChecksums H t2 (Reader.openCtx th)).2.valid⟩).valid))
    (hon : ∀ n valid', Marks th valid' → Honest rx (n + 1) B.length (reqOf th limit valid').items) :
    let out := afterHeader H rx A B limit frag none o t2 th
    out.err = none ∧ (out.file = B ∨ Collision H th.chunkHashType) := by
  intro out
  have hs := C13.open_sound H t2 th hh.opened hh.small
  have hrun := hs.2.2.1
  have hbound : th.lead + th.headerLen + C13.sumLen th.chunks < 2^64 := by
    have := hs.2.2.2.2; rw [hs.2.2.2.1] at this; omega
  have hBsmall : B.length < W64 := by
    rw [hBlen]; have := hs.2.2.2.2; unfold W64; omega
  have hc := afterHeader_complete H rx A B limit frag o t2 th hrun hbound ho hsc0 hsc1 hmarks hBsmall hBok hon
  exact ⟨hc.1, update_yields_B H rx A B limit frag none o t2 th hh hA hBlen hBhdr hBok hc.1 hc.2⟩

/-- every mark is 0 (missing), 1 (valid) or -1 (failed) -/
def Tri (v : List Int) : Prop := ∀ x ∈ v, x = 0 ∨ x = 1 ∨ x = -1

theorem tri_set (v : List Int) (k : Nat) (x : Int) (h : Tri v) (hx : x = 0 ∨ x = 1 ∨ x = -1) : Tri (v.set k x) := by
  intro y hy
  rcases List.mem_or_eq_of_mem_set hy with h1 | h1
  · exact h y h1
  · rw [h1]; exact hx

theorem setMarks_tri : ∀ (m v : List Int) (k : Nat), Tri v → (∀ x ∈ m, x = 1 ∨ x = -1) → Tri (setMarks v k m)
  | [], _, _, h, _ => h
  | x :: m, v, k, h, hm =>
    setMarks_tri m _ (k + 1) (tri_set v k x h (Or.inr (hm x (by simp)))) (fun y hy => hm y (by simp [hy]))

theorem scanLoop_tri (H : HashFn) (f : Bytes) (hdr : Hdr) (useFull : Bool) :
    ∀ (cs : List Chunk) (k pos : Nat) (full : Option Bytes) (valid : List Int) (ag : Bool), Tri valid →
      Tri (scanLoop H f hdr useFull cs k pos full valid ag).2.2.1 ∧
      (scanLoop H f hdr useFull cs k pos full valid ag).2.2.1.length = valid.length := by
  intro cs k pos full valid ag h
  rw [scanLoop_eq]
  exact ⟨setMarks_tri _ _ _ h (scanMarks_range H f hdr cs k pos), setMarks_length _ _ _⟩

theorem validateChecksums_tri (H : HashFn) (f : Bytes) (c : Ctx) (h : Tri c.valid) :
    Tri (validateChecksums H f c).2.valid ∧ (validateChecksums H f c).2.valid.length = c.valid.length := by
  by_cases he : c.err = true
  · rw [validateChecksums_err H f c he]
    exact ⟨h, rfl⟩
  rw [validateChecksums_valid H f c (by simpa using he)]
  split
  · exact ⟨fun x hx => by simp only [List.mem_map] at hx; obtain ⟨_, _, rfl⟩ := hx; exact Or.inr (Or.inr rfl),
      by rw [List.length_map, setMarks_length]⟩
  · exact ⟨setMarks_tri _ _ _ h (scanMarks_range H f c.hdr _ _ _), setMarks_length _ _ _⟩

theorem openCtx_tri (th : Hdr) : Tri (openCtx th).valid ∧ (openCtx th).valid.length = th.chunks.length :=
  ⟨fun x hx => by
    obtain ⟨i, hi⟩ := List.getElem?_of_mem hx
    exact Or.inl ((getD_of_getElem? hi).symm.trans (getD_openCtx_valid th i)), List.length_map ..⟩

theorem copyFrom_tri (H : HashFn) (A : Option Bytes) (th : Hdr) (t : Tgt) (h : Tri t.valid) :
    Tri (copyFrom H A th t).valid ∧ (copyFrom H A th t).valid.length = t.valid.length :=
  copyFrom_induct H A th (fun t' => Tri t'.valid ∧ t'.valid.length = t.valid.length) t
    (fun a ah tc n sc t' _ _ _ _ _ _ hP => by
      rcases (writeAndVerify_spec H a ah th t' n sc tc).2.2 with hm | hm | ⟨hm, _⟩ <;> rw [hm]
      · exact hP
      · exact ⟨tri_set _ _ _ hP.1 (Or.inr (Or.inr rfl)), by rw [List.length_set]; exact hP.2⟩
      · exact ⟨tri_set _ _ _ hP.1 (Or.inr (Or.inl rfl)), by rw [List.length_set]; exact hP.2⟩)
    ⟨h, rfl⟩

theorem resetFailed_bin (v : List Int) (h : Tri v) (k : Nat) : (resetFailed v).getD k 0 = 0 ∨ (resetFailed v).getD k 0 = 1 := by
  rw [getD_resetFailed, List.getD_eq_getElem?_getD]
  cases hk : v[k]? with
  | none => left; rfl
  | some x => rcases h x (List.mem_of_getElem? hk) with rfl | rfl | rfl <;> decide

/-- the marks the fetch loop starts from, for ANY target and old file; that chunks without stored bytes are valid is the scan's
doing (`hzero`) -/
theorem marks_of_scan (H : HashFn) (A : Option Bytes) (t2 : Bytes) (th : Hdr)
    (hzero : ∀ k c, th.chunks[k]? = some c → c.compLen = 0 →
      (validateChecksums H t2 (openCtx th)).2.valid.getD k 0 = 1) :
    Marks th (resetFailed (copyFrom H A th ⟨t2, (validateChecksums H t2 (openCtx th)).2.valid⟩).valid) := by
  have h1 := validateChecksums_tri H t2 (openCtx th) (openCtx_tri th).1
  have h2 := copyFrom_tri H A th ⟨t2, (validateChecksums H t2 (openCtx th)).2.valid⟩ h1.1
  refine ⟨?_, resetFailed_bin _ h2.1, ?_⟩
  · unfold resetFailed
    rw [List.length_map, h2.2]
    rw [h1.2, (openCtx_tri th).2]
  · intro k c hc hz
    exact (resetFailed_eq_one _ k).mpr (copyFrom_keeps H A th _ k (hzero k c hc hz))

/-- C04, soundness and completeness: for ANY target bytes behind the header, old file, limit and fragment size the procedure ends
WITHOUT error and leaves the target BYTE-IDENTICAL to `B` — or two different byte strings with the same chunk checksum exist.
The hypotheses: the header of `B` is in place in the target `t2` and parses; the old file (if any) has the same chunk checksum
type; `B` has the length the header prescribes and every chunk of the index present; the scan left something to do and marked the
chunks without stored bytes valid; every response is well formed (`Honest`). -/
theorem update_converges (H : HashFn) (rx : Rx) (A : Option Bytes) (B : Bytes) (limit : Int) (frag : Nat) (o : Out)
    (t2 : Bytes) (th : Hdr) (hh : HdrOk H t2 th) (ho : o.err = none)
    (hA : ∀ a ah, A = some a → Header.openFile H a = .ok ah → ah.chunkHashType = th.chunkHashType)
    (hBlen : B.length = th.lead + th.headerLen + th.dataLen)
    (hBhdr : ∀ i, i < th.lead + th.headerLen → B.getD i 0 = t2.getD i 0)
    (hBok : AllPresent (envOf H rx th []) B)
    (hsc0 : (Reader.validateChecksums H t2 (Reader.openCtx th)).1 ≠ 0)
    (hsc1 : (Reader.validateChecksums H t2 (Reader.openCtx th)).1 ≠ 1)
    (hzero : ∀ k c, th.chunks[k]? = some c → c.compLen = 0 → (validateChecksums H t2 (openCtx th)).2.valid.getD k 0 = 1)
    (hon : ∀ n valid', Marks th valid' → Honest rx (n + 1) B.length (reqOf th limit valid').items) :
    let out := afterHeader H rx A B limit frag none o t2 th
    out.err = none ∧ (out.file = B ∨ Collision H th.chunkHashType) :=
  update_complete H rx A B limit frag o t2 th hh ho hA hBlen hBhdr hBok hsc0 hsc1 (marks_of_scan H A t2 th hzero) hon

/-- C04 with `refRx` in the place of glibc's regex functions: no hypothesis about regular expressions is left, those that remain
are about the files and the scan -/
theorem update_converges_ref (H : HashFn) (A : Option Bytes) (B : Bytes) (limit : Int) (frag : Nat) (o : Out)
    (t2 : Bytes) (th : Hdr) (hh : HdrOk H t2 th) (ho : o.err = none)
    (hA : ∀ a ah, A = some a → Header.openFile H a = .ok ah → ah.chunkHashType = th.chunkHashType)
    (hBlen : B.length = th.lead + th.headerLen + th.dataLen)
    (hBhdr : ∀ i, i < th.lead + th.headerLen → B.getD i 0 = t2.getD i 0)
    (hBok : AllPresent (envOf H refRx th []) B)
    (hsc0 : (Reader.validateChecksums H t2 (Reader.openCtx th)).1 ≠ 0)
    (hsc1 : (Reader.validateChecksums H t2 (Reader.openCtx th)).1 ≠ 1)
    (hzero : ∀ k c, th.chunks[k]? = some c → c.compLen = 0 → (validateChecksums H t2 (openCtx th)).2.valid.getD k 0 = 1) :
    let out := afterHeader H refRx A B limit frag none o t2 th
    out.err = none ∧ (out.file = B ∨ Collision H th.chunkHashType) :=
  update_converges H refRx A B limit frag o t2 th hh ho hA hBlen hBhdr hBok hsc0 hsc1 hzero
    (fun n _ _ => refRx_honest (n + 1) B.length _)

end Zck.C04
