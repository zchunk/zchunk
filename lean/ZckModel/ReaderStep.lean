/-
What one iteration of the loop of `comp_read` does: an equation or a case principle for each function `step` calls and for
`step` itself, and the rule that carries a property of contexts kept by every iteration to the loop and to a whole call (`Kept`).
An invariant of the reader states its facts branch by branch through these instead of unfolding `step`.
-/
import ZckModel.BytesLemmas

namespace Zck.Reader
open Zck.Format

theorem validateChunk_eq_one {H : HashFn} {c : Ctx} {ch : Chunk} :
    validateChunk H c ch = 1 ↔ ∃ bs d, c.chunkHash = some bs ∧ H c.hdr.chunkHashType bs = some d ∧
      (if ch.compLen = 0 then zeros d.length else d) = ch.digest := by
  unfold validateChunk
  cases c.chunkHash with
  | none => simp
  | some bs =>
    cases hH : H c.hdr.chunkHashType bs with
    | none => simp [hH]
    | some d => simp only [hH, Option.some.injEq, exists_and_left, exists_eq_left']; split <;> simp [*]

theorem validateChunk_range (H : HashFn) (c : Ctx) (ch : Chunk) :
    validateChunk H c ch = 1 ∨ validateChunk H c ch = 0 ∨ validateChunk H c ch = -1 := by
  unfold validateChunk
  cases c.chunkHash with
  | none => simp
  | some bs =>
    cases hH : H c.hdr.chunkHashType bs with
    | none => simp [hH]
    | some d => simp only [hH]; by_cases hd : (if ch.compLen = 0 then zeros d.length else d) = ch.digest <;> simp [hd]

/-- the context a successful chunk end leaves behind; `plain` is what the codec produced (nothing for stored chunks, whose
bytes go to the buffer as they are read) -/
def endCtx (c : Ctx) (k : Nat) (plain : Bytes) : Ctx :=
  { c with data := if c.hdr.compType = 0 then c.data else [], dc := c.dc ++ plain, dataLoc := 0,
           dataIdx := if k + 1 < c.hdr.chunks.length then some (k + 1) else none,
           chunkHash := some [], valid := setValid c.valid k 1 }

/-- what the end of a chunk asks of the sizes and of the codec -/
def Decodes (D : Decomp) (c : Ctx) (ch : Chunk) (useDict : Bool) (plain : Bytes) : Prop :=
  if c.hdr.compType = 0 then ch.compLen = ch.len ∧ plain = []
  else ch.len < allocLimit ∧ D c.data (if useDict then c.dict else none) = some plain ∧ plain.length = ch.len

theorem verdict_eq_ok {v : Int} (hv : v = 1 ∨ v = 0 ∨ v = -1) {x c2 : Ctx} :
    (if v = -1 then EndRes.badSum else if v < 1 then EndRes.fail else EndRes.ok x) = .ok c2 ↔ v = 1 ∧ c2 = x := by
  rcases hv with rfl | rfl | rfl <;> simp [eq_comm]

theorem endDchunk_eq_ok {H : HashFn} {D : Decomp} {c : Ctx} {k : Nat} {ch : Chunk} {ud : Bool} {c2 : Ctx} :
    endDchunk H D c k ch ud = .ok c2 ↔
      ∃ plain, Decodes D c ch ud plain ∧ validateChunk H c ch = 1 ∧ c2 = endCtx c k plain := by
  unfold endDchunk Decodes endCtx
  by_cases h0 : c.hdr.compType = 0
  · simp only [h0, ne_eq, not_true_eq_false, false_and, ↓reduceIte]
    by_cases hl : ch.compLen = ch.len
    · simp only [hl, not_true_eq_false, ↓reduceIte, true_and, exists_eq_left, List.append_nil]
      exact verdict_eq_ok (validateChunk_range H c ch)
    · simp [hl]
  · simp only [h0, ne_eq, not_false_eq_true, true_and, ↓reduceIte]
    by_cases hoom : ch.len ≥ allocLimit
    · simp only [hoom, ↓reduceIte, reduceCtorEq, false_iff, not_exists, not_and]
      intro _ h; omega
    · simp only [hoom, ↓reduceIte, Nat.not_le.mp hoom, true_and]
      cases hD : D c.data (if ud = true then c.dict else none) with
      | none => simp
      | some plain =>
        by_cases hl : plain.length = ch.len
        · simp only [hl, not_true_eq_false, ↓reduceIte, Option.some.injEq]
          refine (verdict_eq_ok (validateChunk_range H c ch)).trans ?_
          constructor
          · rintro ⟨h1, h2⟩; exact ⟨plain, ⟨rfl, hl⟩, h1, h2⟩
          · rintro ⟨p, ⟨rfl, _⟩, h1, h2⟩; exact ⟨h1, h2⟩
        · simp only [hl, not_false_eq_true, ↓reduceIte, reduceCtorEq, Option.some.injEq, false_iff, not_exists, not_and]
          rintro p ⟨rfl, h⟩; exact absurd h hl

theorem firstIdx_eq_none {h : Hdr} :
    firstIdx h = none ↔ h.chunks = [] ∨ ∃ d, h.chunks = [d] ∧ d.compLen = 0 ∧ d.len = 0 := by
  unfold firstIdx
  cases h.chunks with
  | nil => simp
  | cons d tl =>
    cases tl <;> by_cases hs : d.compLen = 0 ∧ d.len = 0 <;> simp [hs]

theorem firstIdx_eq_some {h : Hdr} {i : Nat} (hi : firstIdx h = some i) :
    ∃ d, h.chunks.head? = some d ∧
      ((i = 0 ∧ ¬ (d.compLen = 0 ∧ d.len = 0)) ∨ (i = 1 ∧ d.compLen = 0 ∧ d.len = 0 ∧ 1 < h.chunks.length)) := by
  unfold firstIdx at hi
  cases hd : h.chunks.head? with
  | none => rw [hd] at hi; cases hi
  | some d =>
    rw [hd] at hi
    simp only at hi
    refine ⟨d, rfl, ?_⟩
    by_cases hs : d.compLen = 0 ∧ d.len = 0
    · rw [if_pos hs] at hi
      by_cases hl : 1 < h.chunks.length
      · rw [if_pos hl] at hi; cases hi; exact Or.inr ⟨rfl, hs.1, hs.2, hl⟩
      · rw [if_neg hl] at hi; cases hi
    · rw [if_neg hs] at hi; cases hi; exact Or.inl ⟨rfl, hs⟩

def Step.ctx : Step → Ctx
  | .done _ c => c
  | .cont c _ _ => c

def Step.out : Step → Bytes
  | .done r _ => r.bytes
  | .cont _ out _ => out

theorem ensureHash_eq (c : Ctx) : ensureHash c = { c with chunkHash := some (c.chunkHash.getD []) } := by
  obtain ⟨hdr, pos, started, dict, data, dataLoc, dataIdx, dataEof, dc, chunkHash, fullHash, valid, err, fatal⟩ := c
  cases chunkHash <;> rfl

theorem updFull_eq (c : Ctx) (src : Bytes) :
    updFull c src = { c with fullHash := if flag4 c then c.fullHash else hashUpd c.fullHash src } := by
  unfold updFull; split <;> rfl

/-- the size `comp_read` asks of the file: the request, or what is left of the chunk if that is less -/
theorem readSize_eq (loc n cl : Nat) : (if loc + n > cl then cl - loc else n) = min n (cl - loc) := by
  by_cases h : loc + n > cl
  · rw [if_pos h, Nat.min_eq_right (by omega)]
  · rw [if_neg h, Nat.min_eq_left (by omega)]

theorem stepRead_cases {motive : Step → Prop} (f : Bytes) (n : Nat) (c : Ctx) (ch : Chunk) (out : Bytes)
    (fail : ∀ rs src, rs = min n (ch.compLen - c.dataLoc) → src = fileRead f c.pos rs →
      src = [] ∨ (flag4 c = false ∧ c.fullHash = none) →
      motive (.done ⟨-1, out⟩
        { c with pos := c.pos + src.length, chunkHash := some (c.chunkHash.getD []), err := true }))
    (more : ∀ rs src, rs = min n (ch.compLen - c.dataLoc) → src = fileRead f c.pos rs →
      src ≠ [] → (flag4 c = false → c.fullHash ≠ none) →
      motive (.cont
        { c with pos := c.pos + src.length, chunkHash := some (c.chunkHash.getD [] ++ src),
                 fullHash := if flag4 c then c.fullHash else hashUpd c.fullHash src,
                 data := c.data ++ src, dataLoc := c.dataLoc + src.length } out (decide (src.length < rs)))) :
    motive (stepRead f n c ch out) := by
  unfold stepRead
  simp only [ensureHash_eq, updFull_eq]
  rw [readSize_eq]
  generalize hrs : min n (ch.compLen - c.dataLoc) = rs
  generalize hsrc : fileRead f c.pos rs = src
  show motive (if src.length = 0 then _ else
    if ¬ flag4 c = true ∧ (if flag4 c = true then c.fullHash else hashUpd c.fullHash src).isNone = true then
      .done ⟨-1, out⟩ { c with pos := c.pos + src.length, chunkHash := some (c.chunkHash.getD []), err := true,
                               fullHash := if flag4 c = true then c.fullHash else hashUpd c.fullHash src }
    else _)
  by_cases h0 : src.length = 0
  · rw [if_pos h0]; exact fail rs src hrs.symm hsrc.symm (Or.inl (List.eq_nil_of_length_eq_zero h0))
  rw [if_neg h0]
  by_cases h1 : ¬ flag4 c = true ∧ (if flag4 c = true then c.fullHash else hashUpd c.fullHash src).isNone = true
  · rw [if_pos h1]
    obtain ⟨h4, hn⟩ := h1
    rw [if_neg h4] at hn ⊢
    have hfh : c.fullHash = none := by rwa [hashUpd, Option.isNone_map, Option.isNone_iff_eq_none] at hn
    -- `hashUpd none = none`: the failing branch leaves `fullHash` as it was, as `fail` states it
    have e : hashUpd c.fullHash src = c.fullHash := by rw [hfh]; rfl
    rw [e]
    exact fail rs src hrs.symm hsrc.symm (Or.inr ⟨by simpa using h4, hfh⟩)
  · rw [if_neg h1]
    refine more rs src hrs.symm hsrc.symm (fun h => h0 (by rw [h]; rfl)) (fun h4 hn => h1 ⟨by simp [h4], ?_⟩)
    rw [h4, hn]; rfl

/-- the part of an iteration after the buffer was found empty -/
def stepTail (H : HashFn) (D : Decomp) (f : Bytes) (n : Nat) (useDict : Bool) (c : Ctx) (out : Bytes) (finishedRd : Bool) : Step :=
  if c.dataEof then .done ⟨out.length, out⟩ c else
  if c.hdr.compType = 0 ∧ c.data ≠ [] then .cont { c with dc := c.dc ++ c.data, data := [] } out finishedRd else
  match c.dataIdx with
  | none =>
    (match firstIdx c.hdr with
     | none => .done ⟨0, out⟩ { c with dataIdx := none, chunkHash := some [] }
     | some i => .cont { c with dataIdx := some i, chunkHash := some [] } out finishedRd)
  | some ki =>
    match chunkAt c ki with
    | none => .done ⟨-1, out⟩ { c with err := true }
    | some ch =>
      if c.dataLoc = ch.compLen then stepEnd H D c ki ch useDict out finishedRd
      else if finishedRd then .done ⟨-1, out⟩ { c with err := true, fatal := true }
      else stepRead f n c ch out

/-- `step` is its first half — return, or hand out buffered bytes — and then `stepTail` -/
theorem step_eq (H : HashFn) (D : Decomp) (f : Bytes) (n : Nat) (ud : Bool) (c : Ctx) (out : Bytes) (fin : Bool) :
    step H D f n ud c out fin =
      if out.length ≥ n then .done ⟨out.length, out⟩ c else
      if c.err then .done ⟨-1, out⟩ c else
      let k := min (n - out.length) c.dc.length
      if (out ++ c.dc.take k).length = n then .done ⟨n, out ++ c.dc.take k⟩ { c with dc := c.dc.drop k } else
      if k > 0 then .cont { c with dc := c.dc.drop k } (out ++ c.dc.take k) fin else
      stepTail H D f n ud { c with dc := c.dc.drop k } (out ++ c.dc.take k) fin := rfl

theorem step_cases {motive : Step → Prop} (H : HashFn) (D : Decomp) (f : Bytes) (n : Nat) (ud : Bool) (c : Ctx) (out : Bytes)
    (fin : Bool)
    (full : n ≤ out.length → motive (.done ⟨out.length, out⟩ c))
    (err : c.err = true → motive (.done ⟨-1, out⟩ c))
    (handAll : ∀ k, 0 < k → (out ++ c.dc.take k).length = out.length + k → out.length + k = n →
      motive (.done ⟨n, out ++ c.dc.take k⟩ { c with dc := c.dc.drop k }))
    (handSome : ∀ k, 0 < k → (out ++ c.dc.take k).length = out.length + k → out.length + k < n →
      motive (.cont { c with dc := c.dc.drop k } (out ++ c.dc.take k) fin))
    (idle : out.length < n → c.err = false → c.dc = [] → motive (stepTail H D f n ud c out fin)) :
    motive (step H D f n ud c out fin) := by
  rw [step_eq]
  by_cases h1 : out.length ≥ n
  · rw [if_pos h1]; exact full h1
  rw [if_neg h1]
  by_cases h2 : c.err = true
  · rw [if_pos h2]; exact err h2
  rw [if_neg h2]
  generalize hk : min (n - out.length) c.dc.length = k
  have hkl : k ≤ c.dc.length := hk ▸ Nat.min_le_right _ _
  have hkn : out.length + k ≤ n := by have : k ≤ n - out.length := hk ▸ Nat.min_le_left _ _; omega
  -- nothing handed out although bytes are wanted: the buffer is empty
  have hk0 : k = 0 → c.dc.length = 0 := by omega
  have hlen : (out ++ c.dc.take k).length = out.length + k := by
    rw [List.length_append, List.length_take, Nat.min_eq_left hkl]
  dsimp only
  rw [hlen]
  by_cases h3 : out.length + k = n
  · rw [if_pos h3]; exact handAll k (by omega) hlen h3
  rw [if_neg h3]
  by_cases h4 : k > 0
  · rw [if_pos h4]; exact handSome k h4 hlen (by omega)
  rw [if_neg h4]
  obtain rfl : k = 0 := by omega
  have hdc : c.dc = [] := List.eq_nil_of_length_eq_zero (hk0 rfl)
  rw [show ({ c with dc := c.dc.drop 0 } : Ctx) = c from rfl, hdc, List.take_nil, List.append_nil]
  exact idle (by omega) (by simpa using h2) hdc

theorem stepTail_cases {motive : Step → Prop} (H : HashFn) (D : Decomp) (f : Bytes) (n : Nat) (ud : Bool) (c : Ctx) (out : Bytes)
    (fin : Bool)
    (eof : c.dataEof = true → motive (.done ⟨out.length, out⟩ c))
    (move : c.dataEof = false → c.hdr.compType = 0 → c.data ≠ [] →
      motive (.cont { c with dc := c.dc ++ c.data, data := [] } out fin))
    (noChunk : c.dataEof = false → c.dataIdx = none → firstIdx c.hdr = none →
      motive (.done ⟨0, out⟩ { c with dataIdx := none, chunkHash := some [] }))
    (first : ∀ i, c.dataEof = false → (c.hdr.compType = 0 → c.data = []) → c.dataIdx = none → firstIdx c.hdr = some i →
      motive (.cont { c with dataIdx := some i, chunkHash := some [] } out fin))
    (badIdx : ∀ k, c.dataEof = false → c.dataIdx = some k → chunkAt c k = none → motive (.done ⟨-1, out⟩ { c with err := true }))
    (atEnd : ∀ k ch, c.dataEof = false → (c.hdr.compType = 0 → c.data = []) → c.dataIdx = some k → chunkAt c k = some ch →
      c.dataLoc = ch.compLen → motive (stepEnd H D c k ch ud out fin))
    (cut : ∀ k ch, c.dataEof = false → c.dataIdx = some k → chunkAt c k = some ch → c.dataLoc ≠ ch.compLen → fin = true →
      motive (.done ⟨-1, out⟩ { c with err := true, fatal := true }))
    (read : ∀ k ch, c.dataEof = false → c.dataIdx = some k → chunkAt c k = some ch → c.dataLoc ≠ ch.compLen → fin = false →
      motive (stepRead f n c ch out)) :
    motive (stepTail H D f n ud c out fin) := by
  unfold stepTail
  by_cases h1 : c.dataEof = true
  · rw [if_pos h1]; exact eof h1
  rw [if_neg h1]
  have h1 : c.dataEof = false := by simpa using h1
  by_cases h2 : c.hdr.compType = 0 ∧ c.data ≠ []
  · rw [if_pos h2]; exact move h1 h2.1 h2.2
  rw [if_neg h2]
  have h2 : c.hdr.compType = 0 → c.data = [] := fun hz => Classical.byContradiction fun hd => h2 ⟨hz, hd⟩
  split
  · rename_i hi
    split
    · rename_i hf; exact noChunk h1 hi hf
    · rename_i i hf; exact first i h1 h2 hi hf
  · rename_i k hi
    split
    · rename_i hc; exact badIdx k h1 hi hc
    · rename_i ch hc
      by_cases h3 : c.dataLoc = ch.compLen
      · rw [if_pos h3]; exact atEnd k ch h1 h2 hi hc h3
      rw [if_neg h3]
      by_cases hf : fin = true
      · rw [if_pos hf]; exact cut k ch h1 hi hc h3 hf
      · rw [if_neg hf]; exact read k ch h1 hi hc h3 (Bool.eq_false_iff.mpr hf)

theorem close_eq_true {H : HashFn} {c : Ctx} :
    close H c = true ↔
      c.err = false ∧ (flag4 c = true ∨ ∃ bs, c.fullHash = some bs ∧ H c.hdr.hashType bs = some c.hdr.dataDigest) := by
  unfold close
  cases c.err
  · cases flag4 c
    · cases c.fullHash <;> simp
    · simp
  · simp

/-- `J c out` — a property of a context and of the bytes a call has copied so far — is kept by every iteration, and survives what
`comp_read` and `import_dict` do to a context around the loop: setting the error state, and installing the dictionary -/
structure Kept (H : HashFn) (D : Decomp) (f : Bytes) (J : Ctx → Bytes → Prop) : Prop where
  step : ∀ n ud c out fin, J c out → J (step H D f n ud c out fin).ctx (step H D f n ud c out fin).out
  fail : ∀ c out (e fa : Bool), J c out → J { c with err := e, fatal := fa } []
  dict : ∀ c out (d : Option Bytes), J c out → J { c with dc := [], dict := d, started := true } []

section
variable {H : HashFn} {D : Decomp} {f : Bytes} {J : Ctx → Bytes → Prop}

theorem Kept.readLoop (k : Kept H D f J) (n : Nat) (ud : Bool) : ∀ (fuel : Nat) (c : Ctx) (out : Bytes) (fin : Bool), J c out →
    J (readLoop H D f n ud fuel c out fin).2 (readLoop H D f n ud fuel c out fin).1.bytes
  | 0, _, _, _, h => h
  | fuel + 1, c, out, fin, h => by
    have hs := k.step n ud c out fin h
    unfold Reader.readLoop
    cases hst : Reader.step H D f n ud c out fin with
    | done r c' => rw [hst] at hs; exact hs
    | cont c' out' fin' => rw [hst] at hs; exact k.readLoop n ud fuel c' out' fin' hs

theorem Kept.compReadRaw (k : Kept H D f J) (c : Ctx) (n : Nat) (ud : Bool) (h : J c []) :
    J (compReadRaw H D f c n ud).2 (compReadRaw H D f c n ud).1.bytes := by
  unfold Reader.compReadRaw
  by_cases h1 : c.err = true
  · rw [if_pos h1]; exact h
  rw [if_neg h1]
  by_cases h2 : ¬ c.started = true
  · -- `{ c with err := true }` is `k.fail`'s `{ c with err := true, fatal := c.fatal }` by structure eta
    rw [if_pos h2]; exact k.fail c [] true c.fatal h
  rw [if_neg h2]
  by_cases h3 : n = 0
  · rw [if_pos h3]; exact h
  · rw [if_neg h3]; exact k.readLoop n ud _ c [] false h

theorem Kept.importDict (k : Kept H D f J) (c : Ctx) (h : J c []) : J (importDict H D f c).2 [] := by
  unfold Reader.importDict
  split
  · exact k.fail c [] true false h
  · split
    · exact h
    · rename_i d _ _
      have hr := k.compReadRaw c d.len false h
      simp only
      split
      · exact k.fail _ _ true false hr
      · exact k.dict _ _ _ hr

theorem Kept.compRead (k : Kept H D f J) (c : Ctx) (n : Nat) (h : J c []) : J (compRead H D f c n).2 (compRead H D f c n).1.bytes := by
  have herr := k.fail c [] true c.fatal h
  unfold Reader.compRead
  by_cases h1 : c.err = true
  · rw [if_pos h1]; exact h
  by_cases h2 : ¬ c.started = true
  · rw [if_neg h1, if_pos h2]; exact herr
  by_cases h3 : n = 0
  · rw [if_neg h1, if_neg h2, if_pos h3]; exact h
  rw [if_neg h1, if_neg h2, if_neg h3]
  cases c.hdr.chunks.head? with
  | none => exact herr
  | some d =>
    simp only
    by_cases h4 : d.len > 0 ∧ c.dict.isNone = true
    · by_cases h5 : d.len ≥ allocLimit
      · rw [if_pos h4, if_pos h5]; exact h
      have hi := k.importDict c h
      rw [if_pos h4, if_neg h5]
      revert hi
      rcases Reader.importDict H D f c with ⟨ok, c1⟩
      intro hi
      cases ok with
      | false => exact hi
      | true => exact k.readLoop n true _ c1 [] false hi
    · rw [if_neg h4]; exact k.readLoop n true _ c [] false h

end

end Zck.Reader
