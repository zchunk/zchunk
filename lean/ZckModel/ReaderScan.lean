/-
What the validators of the reader model compute, in closed form.  The chunk loop of `validate_checksums` (`scanLoop`) threads a
read position, a running checksum, the list of marks and a flag through the index; `scanLoop_eq` gives all four as functions of
the chunk list (`scanMarks`, `scanLen`), and `validateChecksums_eq` the verdict and the marks of the whole call.  The point that
makes the closed form possible: after a short read the file is exhausted, so reading on from where a read stopped delivers the
same bytes as reading at the offset where it should have stopped (`fileRead_after`) — the position never needs a case split.
-/
import ZckModel.BytesLemmas

namespace Zck.Reader
open Zck.Format

/-- where the descriptor stands after a read of `n` bytes at `p` -/
def adv (f : Bytes) (p n : Nat) : Nat := p + (fileRead f p n).length

theorem adv_zero (f : Bytes) (p : Nat) : adv f p 0 = p := rfl

theorem fileRead_after (f : Bytes) (p s n : Nat) : fileRead f (adv f p s) n = fileRead f (p + s) n := by
  unfold adv fileRead
  simp only [List.length_take, List.length_drop]
  by_cases h : s ≤ f.length - p
  · rw [Nat.min_eq_left h]
  · have h1 : f.length ≤ p + min s (f.length - p) := by omega
    have h2 : f.length ≤ p + s := by omega
    rw [List.drop_eq_nil_of_le h1, List.drop_eq_nil_of_le h2]

theorem adv_adv (f : Bytes) (p s n : Nat) : adv f (adv f p s) n = adv f p (s + n) := by
  show adv f p s + (fileRead f (adv f p s) n).length = p + (fileRead f p (s + n)).length
  rw [fileRead_after, fileRead_add, List.length_append]
  unfold adv; omega

/-- the mark of a chunk whose stored bytes are looked for at offset `p` -/
def markAt (H : HashFn) (f : Bytes) (hdr : Hdr) (p : Nat) (ch : Chunk) : Int :=
  scanValue H hdr ch (fileRead f p ch.compLen) (decide ((fileRead f p ch.compLen).length < ch.compLen))

theorem markAt_eq_one_iff (H : HashFn) (f : Bytes) (hdr : Hdr) (p : Nat) (ch : Chunk) :
    markAt H f hdr p ch = 1 ↔ (fileRead f p ch.compLen).length = ch.compLen ∧
      ∃ d, H hdr.chunkHashType (fileRead f p ch.compLen) = some d ∧ (if ch.compLen = 0 then zeros d.length else d) = ch.digest := by
  unfold markAt scanValue
  have hle := length_fileRead_le f p ch.compLen
  cases H hdr.chunkHashType (fileRead f p ch.compLen) with
  | none => simp
  | some d =>
    by_cases ht : (fileRead f p ch.compLen).length < ch.compLen
    · simp [ht]; omega
    · by_cases hc : (if ch.compLen = 0 then zeros d.length else d) = ch.digest
      · simp [ht, hc]; omega
      · simp [ht, hc]

/-- the marks the chunk loop assigns to the entries `cs`, numbered from `k`, the first of which is stored at offset `p`: an
empty first entry is passed over as valid, and behind a detached header only the first entry is looked at -/
def scanMarks (H : HashFn) (f : Bytes) (hdr : Hdr) : List Chunk → Nat → Nat → List Int
  | [], _, _ => []
  | ch :: rest, k, p =>
    if k = 0 ∧ ch.len = 0 then 1 :: (if hdr.detached then [] else scanMarks H f hdr rest (k + 1) p)
    else markAt H f hdr p ch :: (if hdr.detached then [] else scanMarks H f hdr rest (k + 1) (p + ch.compLen))

/-- the number of bytes the chunk loop asks for -/
def scanLen (hdr : Hdr) : List Chunk → Nat → Nat
  | [], _ => 0
  | ch :: rest, k =>
    if k = 0 ∧ ch.len = 0 then (if hdr.detached then 0 else scanLen hdr rest (k + 1))
    else ch.compLen + (if hdr.detached then 0 else scanLen hdr rest (k + 1))

/-- `m` written over the marks from position `k` on -/
def setMarks : List Int → Nat → List Int → List Int
  | v, _, [] => v
  | v, k, x :: m => setMarks (setValid v k x) (k + 1) m

theorem hashUpd_nil (h : Option Bytes) : hashUpd h [] = h := by cases h <;> simp [hashUpd]

theorem hashUpd_append (h : Option Bytes) (a b : Bytes) : hashUpd (hashUpd h a) b = hashUpd h (a ++ b) := by
  cases h <;> simp [hashUpd]

/-- the closed form, from any position a sequence of reads starting at `p` can have reached -/
theorem scanLoop_eq_adv (H : HashFn) (f : Bytes) (hdr : Hdr) (uf : Bool) (p : Nat) :
    ∀ (cs : List Chunk) (k s : Nat) (full : Option Bytes) (valid : List Int) (ag : Bool),
      scanLoop H f hdr uf cs k (adv f p s) full valid ag =
        (adv f p (s + scanLen hdr cs k),
         if uf then hashUpd full (fileRead f (p + s) (scanLen hdr cs k)) else full,
         setMarks valid k (scanMarks H f hdr cs k (p + s)),
         ag && (scanMarks H f hdr cs k (p + s)).all (· = 1))
  | [], k, s, full, valid, ag => by
    cases uf <;> simp [scanLoop, scanLen, scanMarks, setMarks, fileRead_zero, hashUpd_nil]
  | ch :: rest, k, s, full, valid, ag => by
    unfold scanLoop scanLen scanMarks
    by_cases hfirst : k = 0 ∧ ch.len = 0
    · simp only [hfirst, and_self, ↓reduceIte]
      cases hd : hdr.detached
      · simp only [Bool.false_eq_true, ↓reduceIte]
        rw [scanLoop_eq_adv H f hdr uf p rest _ s]
        simp [setMarks]
      · cases uf <;> simp [setMarks, fileRead_zero, hashUpd_nil]
    · have hadv : adv f p s + (fileRead f (p + s) ch.compLen).length = adv f p (s + ch.compLen) := by
        rw [← adv_adv, ← fileRead_after]; rfl
      simp only [hfirst, ↓reduceIte, readPieces, fileRead_after, hadv]
      cases hd : hdr.detached
      · simp only [Bool.false_eq_true, ↓reduceIte]
        rw [scanLoop_eq_adv H f hdr uf p rest _ (s + ch.compLen)]
        cases uf <;> simp [setMarks, markAt, hashUpd_append, fileRead_add, Nat.add_assoc, Bool.and_assoc]
      · cases uf <;> simp [setMarks, markAt]

theorem scanLoop_eq (H : HashFn) (f : Bytes) (hdr : Hdr) (uf : Bool) (cs : List Chunk) (k p : Nat) (full : Option Bytes)
    (valid : List Int) (ag : Bool) :
    scanLoop H f hdr uf cs k p full valid ag =
      (adv f p (scanLen hdr cs k), if uf then hashUpd full (fileRead f p (scanLen hdr cs k)) else full,
       setMarks valid k (scanMarks H f hdr cs k p), ag && (scanMarks H f hdr cs k p).all (· = 1)) := by
  have e := scanLoop_eq_adv H f hdr uf p cs k 0 full valid ag
  rwa [adv_zero, Nat.add_zero, Nat.zero_add] at e

theorem getD_openCtx_valid (h : Hdr) (j : Nat) : (openCtx h).valid.getD j 0 = 0 := by
  show (h.chunks.map fun _ => (0 : Int)).getD j 0 = 0
  rw [List.getD_eq_getElem?_getD, List.getElem?_map]
  cases h.chunks[j]? <;> rfl

theorem setMarks_length : ∀ (m v : List Int) (k : Nat), (setMarks v k m).length = v.length
  | [], _, _ => rfl
  | x :: m, v, k => by rw [setMarks, setMarks_length m]; simp [setValid]

theorem setMarks_getElem? : ∀ (m v : List Int) (k j : Nat),
    (setMarks v k m)[j]? = if k ≤ j ∧ j < k + m.length ∧ j < v.length then m[j - k]? else v[j]?
  | [], v, k, j => by rw [setMarks, if_neg fun h => Nat.not_lt.mpr h.1 h.2.1]
  | x :: m, v, k, j => by
    rw [setMarks, setMarks_getElem? m]
    simp only [setValid, List.length_set, List.length_cons, List.getElem?_set]
    by_cases hj : k = j
    · subst hj
      have hn : ¬ (k + 1 ≤ k ∧ k < k + 1 + m.length ∧ k < v.length) := by omega
      rw [if_neg hn]
      by_cases hl : k < v.length <;> simp [hl]
    · by_cases h1 : k + 1 ≤ j ∧ j < k + 1 + m.length ∧ j < v.length
      · rw [if_pos h1, if_pos ⟨by omega, by omega, h1.2.2⟩, show j - k = (j - (k + 1)) + 1 by omega, List.getElem?_cons_succ]
      · rw [if_neg h1, if_neg hj, if_neg (by omega)]

theorem setMarks_full {m v : List Int} (h : m.length = v.length) : setMarks v 0 m = m := by
  apply List.ext_getElem?
  intro j
  rw [setMarks_getElem?]
  by_cases hj : j < v.length
  · rw [if_pos ⟨by omega, by omega, hj⟩]; rfl
  · rw [if_neg (by omega), List.getElem?_eq_none (by omega), List.getElem?_eq_none (by omega)]

theorem scanMarks_length (H : HashFn) (f : Bytes) (hdr : Hdr) (hdet : hdr.detached = false) :
    ∀ (cs : List Chunk) (k p : Nat), (scanMarks H f hdr cs k p).length = cs.length
  | [], _, _ => rfl
  | ch :: rest, k, p => by
    rw [scanMarks]
    by_cases hf : k = 0 ∧ ch.len = 0 <;> simp [hf, hdet, scanMarks_length H f hdr hdet rest]

/-- the marks of a whole scan: every entry of the header, the first stored where the data section begins -/
def scanOf (H : HashFn) (f : Bytes) (h : Hdr) : List Int := scanMarks H f h h.chunks 0 (h.lead + h.headerLen)

/-- the final data-checksum check of `validate_checksums` is made (a file with data, checksum wanted, every chunk matched) and
fails -/
def dataBad (H : HashFn) (f : Bytes) (h : Hdr) : Prop :=
  ¬ (h.flags / 4 % 2 = 1 ∨ h.detached = true) ∧ (scanOf H f h).all (· = 1) = true ∧
    ¬ H h.hashType (fileRead f (h.lead + h.headerLen) (scanLen h h.chunks 0)) = some h.dataDigest

instance (H : HashFn) (f : Bytes) (h : Hdr) : Decidable (dataBad H f h) := by unfold dataBad; exact inferInstance

theorem validateChecksums_eq (H : HashFn) (f : Bytes) (c : Ctx) (he : c.err = false) :
    validateChecksums H f c =
      (if (scanOf H f c.hdr).all (· = 1) = true ∧ ¬ dataBad H f c.hdr then 1 else -1,
       { c with valid := if dataBad H f c.hdr then (setMarks c.valid 0 (scanOf H f c.hdr)).map (fun _ => -1)
                         else setMarks c.valid 0 (scanOf H f c.hdr),
                chunkHash := none, pos := dataOff c, fullHash := some [] }) := by
  have e := scanLoop_eq H f c.hdr (decide (¬ flag4 c = true)) c.hdr.chunks 0 (dataOff c) (some []) c.valid true
  unfold validateChecksums dataBad scanOf
  rw [if_neg (by simp [he])]
  dsimp only
  rw [e]
  unfold flag4 dataOff
  by_cases h4 : c.hdr.flags / 4 % 2 = 1
  · by_cases hg : (scanMarks H f c.hdr c.hdr.chunks 0 (c.hdr.lead + c.hdr.headerLen)).all (· = 1) = true <;> simp [h4, hg]
  by_cases hdet : c.hdr.detached = true
  · by_cases hg : (scanMarks H f c.hdr c.hdr.chunks 0 (c.hdr.lead + c.hdr.headerLen)).all (· = 1) = true <;> simp [h4, hg, hdet]
  by_cases hg : (scanMarks H f c.hdr c.hdr.chunks 0 (c.hdr.lead + c.hdr.headerLen)).all (· = 1) = true
  · by_cases hH : H c.hdr.hashType (fileRead f (c.hdr.lead + c.hdr.headerLen) (scanLen c.hdr c.hdr.chunks 0)) = some c.hdr.dataDigest <;>
      simp [hg, h4, hdet, hH, hashUpd]
  · simp [hg, h4, hdet]

theorem validateChecksums_err (H : HashFn) (f : Bytes) (c : Ctx) (he : c.err = true) : validateChecksums H f c = (0, c) := by
  unfold validateChecksums; rw [if_pos he]

theorem validateChecksums_verdict (H : HashFn) (f : Bytes) (c : Ctx) (he : c.err = false) :
    (validateChecksums H f c).1 = if (scanOf H f c.hdr).all (· = 1) = true ∧ ¬ dataBad H f c.hdr then 1 else -1 := by
  rw [validateChecksums_eq H f c he]

theorem validateChecksums_valid (H : HashFn) (f : Bytes) (c : Ctx) (he : c.err = false) :
    (validateChecksums H f c).2.valid =
      if dataBad H f c.hdr then (setMarks c.valid 0 (scanOf H f c.hdr)).map (fun _ => -1) else setMarks c.valid 0 (scanOf H f c.hdr) := by
  rw [validateChecksums_eq H f c he]

theorem validateData_eq (H : HashFn) (f : Bytes) (c : Ctx) (he : c.err = false) :
    validateData H f c =
      if flag4 c then validateChecksums H f c else
      (if (fileRead f (dataOff c) c.hdr.dataLen).length = c.hdr.dataLen ∧
          H c.hdr.hashType (fileRead f (dataOff c) c.hdr.dataLen) = some c.hdr.dataDigest then 1 else -1,
       { c with pos := dataOff c, fullHash := some [] }) := by
  unfold validateData
  rw [if_neg (by simp [he])]
  by_cases h4 : flag4 c = true
  · rw [if_pos h4, if_pos h4]
  · rw [if_neg h4, if_neg h4]
    have hle := length_fileRead_le f (dataOff c) c.hdr.dataLen
    have e : ((H c.hdr.hashType (fileRead f (dataOff c) c.hdr.dataLen) == some c.hdr.dataDigest) = true ∧
        ¬ decide ((fileRead f (dataOff c) c.hdr.dataLen).length < c.hdr.dataLen) = true) ↔
        ((fileRead f (dataOff c) c.hdr.dataLen).length = c.hdr.dataLen ∧
          H c.hdr.hashType (fileRead f (dataOff c) c.hdr.dataLen) = some c.hdr.dataDigest) := by
      simp only [beq_iff_eq, decide_eq_true_eq, Nat.not_lt]
      constructor
      · exact fun h => ⟨by omega, h.1⟩
      · exact fun h => ⟨h.2, by omega⟩
    simp only [e]

end Zck.Reader
