/-
C02 — the streaming reader against the independent reference decoder (`Format.decodeAny`, written from the format text).

`stream_decodes`: whenever a sequence of reads that all succeed and end short is followed by a successful `zck_close`, the
reference decoder accepts the file behind the same header and its content is exactly the bytes handed out.  The reference
decoder is stricter than the reader in two places the format text is explicit about, which are therefore hypotheses here and
are stated as such: the checksum field of an empty dictionary entry must be all zeros (the reader passes over that entry
without looking at its checksum field), and an entry with declared length 0 must have no stored bytes (the reader lets the
codec decide).  The other hypotheses (`hH`, `hr`, `hdl`, `hne`) hold of every header the parser accepts and of the SHA models
(`Props/C02Full.lean`, `Props/C02Hash.lean`).
-/
import ZckModel.Props.C02Stream

namespace Zck.Stream
open Zck.Format Zck.Reader

/-- the chunks behind a header, as `Format.decodeAny` decodes them -/
def chunksContent (H : HashFn) (D : Decomp) (f : Bytes) (h : Hdr) : Option Bytes :=
  match h.chunks with
  | [] => none
  | d :: rest =>
    (plainChecked H D h f none d).bind fun dictPlain =>
      (rest.mapM (plainChecked H D h f (if d.len = 0 then none else some dictPlain))).bind fun parts => some parts.flatten

/-- the part of `Format.decodeAny` behind the header parse: the data section is all there, hashes to the data checksum (not
under the uncompressed-source flag), and the chunks decode -/
def contentOf (H : HashFn) (D : Decomp) (f : Bytes) (h : Hdr) : Option Bytes :=
  match slice f (h.lead + h.headerLen) h.dataLen with
  | none => none
  | some body =>
    if h.flags / 4 % 2 = 0 ∧ H h.hashType body ≠ some h.dataDigest then none else chunksContent H D f h

theorem decodeAny_eq (H : HashFn) (D : Decomp) (f : Bytes) (h : Hdr) (hp : parse H f = some h) :
    decodeAny H D f = contentOf H D f h := by
  unfold decodeAny contentOf chunksContent
  rw [hp]
  simp only [Option.bind_eq_bind, Option.bind_some]
  cases slice f (h.lead + h.headerLen) h.dataLen with
  | none => rfl
  | some body =>
    simp only [Option.bind_some]
    by_cases h4 : h.flags / 4 % 2 = 0
    · simp only [h4, ↓reduceIte, true_and]
      cases hH : H h.hashType body with
      | none => simp
      | some dd =>
        simp only [Option.bind_some]
        by_cases he : dd = h.dataDigest
        · subst he; simp only [bne_self_eq_false, Bool.false_eq_true, ↓reduceIte, ne_eq, not_true_eq_false]; cases h.chunks <;> rfl
        · simp [he]
    · simp only [h4, ↓reduceIte, false_and]
      rfl

/-- digests have the size the format gives for their type -/
def HashLen (H : HashFn) : Prop := ∀ t bs d, H t bs = some d → hsize t = some d.length

section
variable {H : HashFn} {D : Decomp} {f : Bytes} {h : Hdr}

theorem plainChecked_of_good (hH : HashLen H) (dict : Option Bytes) (ch : Chunk)
    (hz : ch.len = 0 → ch.compLen = 0) (hg : ChunkGood H D f h dict ch) :
    plainChecked H D h f dict ch = some (plainOf D f h dict ch) := by
  have ⟨hlen, ⟨d, hHd, hdig⟩, _⟩ := hg
  have hsl : slice f (h.lead + h.headerLen + ch.start) ch.compLen = some (stored f h ch) :=
    slice_eq_some.2 ⟨rfl, hlen⟩
  have hsc : storedChecked H h f ch = some (stored f h ch) := by
    unfold storedChecked
    rw [hsl]
    simp only [Option.bind_eq_bind, Option.bind_some]
    by_cases hc0 : ch.compLen = 0
    · simp only [hc0, ↓reduceIte] at hdig ⊢
      rw [hH _ _ _ hHd]
      simp [hdig]
    · simp only [hc0, ↓reduceIte] at hdig ⊢
      rw [hHd]
      simp [hdig]
  unfold plainChecked
  rw [hsc]
  simp only [Option.bind_eq_bind, Option.bind_some]
  by_cases hl0 : ch.len = 0
  · rw [if_pos hl0, if_pos (hz hl0), List.eq_nil_of_length_eq_zero (hg.plain.1.trans hl0)]
  · obtain ⟨hpl, hp⟩ := hg.plain
    rw [if_neg hl0]
    by_cases hct : h.compType = 0
    · rw [if_pos hct] at hp ⊢
      rw [Option.some.inj hp, if_neg (fun hne => hne hpl)]
    · rw [if_neg hct] at hp ⊢
      rw [hp, Option.bind_some, if_neg (fun hne => hne hpl)]

theorem mapM_rest (hH : HashLen H) (dict : Option Bytes) (hdict : dict = dictMain D f h) :
    ∀ (rest : List Chunk) (j : Nat), 1 ≤ j → (∀ c ∈ rest, c.len = 0 → c.compLen = 0) →
      (∀ i c, rest[i]? = some c → Need H D f h (j + i) c) →
      ∃ parts, rest.mapM (plainChecked H D h f dict) = some parts ∧ parts.flatten = doneFrom D f h j rest
  | [], _, _, _, _ => ⟨[], by simp, by simp [doneFrom]⟩
  | c :: rest, j, hj, hz, hn => by
    have hnc : Need H D f h j c := by simpa using hn 0 c (by simp)
    have hd : dictFor D f h j = dict := by unfold dictFor; rw [if_neg (by omega), hdict]
    have hgood : ChunkGood H D f h (dictFor D f h j) c := hnc.resolve_left fun hs => by have := hs.1; omega
    have hcon := hgood.contrib_eq
    rw [hd] at hgood hcon
    have h1 := plainChecked_of_good hH dict c (hz c (by simp)) hgood
    obtain ⟨parts, hp, hf⟩ := mapM_rest hH dict hdict rest (j + 1) (by omega)
      (fun c' hc' => hz c' (List.mem_cons_of_mem _ hc'))
      (fun i c' hi => by
        have := hn (i + 1) c' (by simpa using hi)
        rw [show j + (i + 1) = j + 1 + i by omega] at this; exact this)
    refine ⟨plainOf D f h dict c :: parts, ?_, ?_⟩
    · rw [List.mapM_cons, h1]
      simp [hp]
    · simp only [List.flatten_cons, doneFrom, hf, hcon]

theorem decoded_content (hH : HashLen H) (hdl : h.dataLen = total h) (hne : h.chunks ≠ [])
    (hdz : ∀ d, h.chunks.head? = some d → d.compLen = 0 → d.len = 0 → (hsize h.chunkHashType).map zeros = some d.digest)
    (hlz : ∀ c ∈ h.chunks, c.len = 0 → c.compLen = 0)
    (out : Bytes) (hdec : Decoded H D f h out) (hdata : DataOk H f h) :
    contentOf H D f h = some out := by
  unfold contentOf
  have hbody : slice f (h.lead + h.headerLen) h.dataLen = some (fileRead f (dOff h) (total h)) := by
    rw [hdl]; exact slice_eq_some.2 ⟨rfl, hdec.present⟩
  rw [hbody]
  simp only
  have hnot : ¬ (h.flags / 4 % 2 = 0 ∧ H h.hashType (fileRead f (dOff h) (total h)) ≠ some h.dataDigest) := by
    intro ⟨h4, hne'⟩
    rcases hdata with hf | hf
    · simp [f4] at hf; omega
    · exact hne' hf
  rw [if_neg hnot]
  unfold chunksContent
  cases hc : h.chunks with
  | nil => exact absurd hc hne
  | cons d rest =>
    simp only
    have hd : h.chunks.head? = some d := by rw [hc]; rfl
    have hnd : Need H D f h 0 d := hdec.needs 0 d (by rw [hc]; simp) (List.head?_eq_getElem? ▸ hd)
    have hdp : plainChecked H D h f none d = some (contrib D f h 0 d) := by
      rcases hnd with hs | hg
      · -- the empty dictionary entry: nothing stored, checksum field all zeros
        unfold contrib; rw [if_pos hs]
        unfold plainChecked storedChecked
        have hsl : slice f (h.lead + h.headerLen + d.start) d.compLen = some [] := by unfold slice; simp [hs.2.1]
        rw [hsl]
        simp only [Option.bind_eq_bind, Option.bind_some, hs.2.1, ↓reduceIte]
        rw [hdz d hd hs.2.1 hs.2.2]
        simp [hs.2.2]
      · have hcon := hg.contrib_eq
        rw [show dictFor D f h 0 = none from rfl] at hg hcon
        rw [plainChecked_of_good hH none d (hlz d (by rw [hc]; simp)) hg, hcon]
    rw [hdp]
    simp only [Option.bind_some]
    have hdict : (if d.len = 0 then none else some (contrib D f h 0 d)) = dictMain D f h := by
      unfold dictMain
      rw [hd]
      by_cases hl : d.len = 0
      · simp [hl]
      · simp only [hl, ↓reduceIte]
        unfold contrib
        rw [if_neg (fun hs => hl hs.2.2)]
        simp [dictFor]
    obtain ⟨parts, hp, hf⟩ := mapM_rest hH _ hdict rest 1 (Nat.le_refl 1)
      (fun c hc' => hlz c (by rw [hc]; exact List.mem_cons_of_mem _ hc'))
      (fun i c hi => hdec.needs (1 + i) c (by
          rw [hc]
          have := lt_length_of_getElem? hi
          simp; omega)
        (by rw [hc, show 1 + i = i + 1 by omega]; simpa using hi))
    rw [hp]
    simp only [Option.bind_some]
    rw [hf, hdec.content, hc]
    rfl

theorem stream_decodes (hH : HashLen H) (hr : C13.RunFrom 0 0 h.chunks) (hdl : h.dataLen = total h) (hne : h.chunks ≠ [])
    (hdz : ∀ d, h.chunks.head? = some d → d.compLen = 0 → d.len = 0 → (hsize h.chunkHashType).map zeros = some d.digest)
    (hlz : ∀ c ∈ h.chunks, c.len = 0 → c.compLen = 0)
    (init : List Nat) (nl : Nat)
    (hall : ∀ r ∈ (reads H D f (openCtx h) init).1, 0 ≤ r.ret)
    (hlast : 0 ≤ (compRead H D f (reads H D f (openCtx h) init).2 nl).1.ret)
    (hshort : (compRead H D f (reads H D f (openCtx h) init).2 nl).1.ret < nl)
    (hclose : close H (compRead H D f (reads H D f (openCtx h) init).2 nl).2 = true) :
    contentOf H D f h =
      some (outOf (reads H D f (openCtx h) init).1 ++ (compRead H D f (reads H D f (openCtx h) init).2 nl).1.bytes) := by
  obtain ⟨hd, hdata⟩ := stream_sound (H := H) (D := D) (f := f) hr init nl hall hlast hshort
  exact decoded_content hH hdl hne hdz hlz _ hd (hdata hclose)

end

/-! non-vacuity: a concrete three-entry file on which every hypothesis of `stream_decodes` holds -/

def exH : HashFn := fun t bs => (hsize t).map fun n => (bs ++ zeros n).take n
def exD : Decomp := fun st _ => some st
def exF : Bytes := [1, 2, 3, 9, 8]
def exHdr : Hdr :=
  { detached := false, hashType := 3, chunkHashType := 3, flags := 0, compType := 0, lead := 0, headerLen := 0,
    headerDigest := [], dataDigest := [1, 2, 3, 9, 8, 0, 0, 0, 0, 0, 0, 0, 0, 0, 0, 0], count := 3,
    chunks := [⟨0, zeros 16, none, 0, 0, 0⟩, ⟨1, [1, 2, 3, 0, 0, 0, 0, 0, 0, 0, 0, 0, 0, 0, 0, 0], none, 3, 3, 0⟩,
               ⟨2, [9, 8, 0, 0, 0, 0, 0, 0, 0, 0, 0, 0, 0, 0, 0, 0], none, 2, 2, 3⟩],
    dataLen := 5 }

theorem exH_len : HashLen exH := by
  intro t bs d hd
  unfold exH at hd
  cases hs : hsize t with
  | none => rw [hs] at hd; cases hd
  | some n =>
    rw [hs] at hd
    simp only [Option.map_some, Option.some.injEq] at hd
    subst hd
    simp [length_zeros]

/-- reads of 2, 2 and 7 bytes on the example all succeed, the last comes up short, close succeeds -/
example : (∀ r ∈ (reads exH exD exF (openCtx exHdr) [2, 2]).1, 0 ≤ r.ret) ∧
    0 ≤ (compRead exH exD exF (reads exH exD exF (openCtx exHdr) [2, 2]).2 7).1.ret ∧
    (compRead exH exD exF (reads exH exD exF (openCtx exHdr) [2, 2]).2 7).1.ret < 7 ∧
    close exH (compRead exH exD exF (reads exH exD exF (openCtx exHdr) [2, 2]).2 7).2 = true ∧
    outOf (reads exH exD exF (openCtx exHdr) [2, 2]).1 ++
      (compRead exH exD exF (reads exH exD exF (openCtx exHdr) [2, 2]).2 7).1.bytes = exF := by decide +kernel

/-- `stream_decodes` applies to it -/
example : contentOf exH exD exF exHdr = some exF := by
  rw [stream_decodes (H := exH) (D := exD) (f := exF) (h := exHdr) exH_len (by simp [C13.RunFrom, exHdr]) (by decide) (by decide)
    (by decide) (by decide) [2, 2] 7 (by decide +kernel) (by decide +kernel) (by decide +kernel) (by decide +kernel)]
  decide +kernel

end Zck.Stream
