/-
C09 — validations AFTER reads on the same context.  A validator looks at the header, the file and nothing else of the context:
its verdict and the marks it leaves are the same whatever was read before on that context (any number of `zck_read` calls,
complete or not, as long as the context is not in error state), because in the closed form of the scan
(`Reader.validateChecksums_eq`) the marks of a file with data replace all the old ones when there are as many marks as chunks
(`setMarks_full`), and reads keep the header and the number of marks (`reads_keep`).  Together with
`Props/C09Reads.lean` (reads after validations) this covers both orders of the interleavings the property quantifies over.
-/
import ZckModel.ReaderScan
import ZckModel.Props.C02Full

namespace Zck.Stream
open Zck.Format Zck.Reader

section
variable {H : HashFn} {D : Decomp} {f : Bytes}

/-- what reads never change: the header and the number of marks -/
def Keep (h : Hdr) (n : Nat) (c : Ctx) : Prop := c.hdr = h ∧ c.valid.length = n

/-- `Keep` of the context of a step, in the form the case principles produce it -/
def StepKeep (h : Hdr) (n : Nat) : Step → Prop
  | .done _ c => Keep h n c
  | .cont c _ _ => Keep h n c

theorem stepKeep_iff {h : Hdr} {n : Nat} (s : Step) : StepKeep h n s ↔ Keep h n s.ctx := by cases s <;> exact Iff.rfl

theorem Keep.setValid {h : Hdr} {n : Nat} {c : Ctx} (hk : Keep h n c) (k : Nat) (x : Int) :
    c.hdr = h ∧ (setValid c.valid k x).length = n := ⟨hk.1, by simp [Reader.setValid, hk.2]⟩

theorem step_keep {h : Hdr} {n : Nat} (m : Nat) (ud : Bool) (c : Ctx) (out : Bytes) (fin : Bool)
    (hk : Keep h n c) : StepKeep h n (step H D f m ud c out fin) := by
  -- only a chunk end touches the marks, and it sets one of them
  refine step_cases H D f m ud c out fin (fun _ => hk) (fun _ => hk) (fun _ _ _ _ => hk) (fun _ _ _ _ => hk) (fun _ _ _ => ?_)
  refine stepTail_cases H D f m ud c out fin (fun _ => hk) (fun _ _ _ => hk) (fun _ _ _ => hk) (fun _ _ _ _ _ => hk)
    (fun _ _ _ _ => hk) (fun k ch _ _ _ _ _ => ?_) (fun _ _ _ _ _ _ _ => hk)
    (fun _ ch _ _ _ _ _ => stepRead_cases f m c ch out (fun _ _ _ _ _ => hk) (fun _ _ _ _ _ _ => hk))
  unfold stepEnd
  cases he : endDchunk H D c k ch ud with
  | oom => exact hk
  | fail => exact hk
  | badSum => exact hk.setValid k (-1)
  | ok c2 =>
    obtain ⟨plain, _, _, rfl⟩ := endDchunk_eq_ok.mp he
    show Keep h n (if _ then _ else _)
    split <;> exact hk.setValid k 1

theorem keep_kept (h : Hdr) (n : Nat) : Kept H D f (fun c _ => Keep h n c) where
  step m ud c out fin hk := (stepKeep_iff _).mp (step_keep m ud c out fin hk)
  fail _ _ _ _ hk := hk
  dict _ _ _ hk := hk

theorem reads_keep {h : Hdr} {n : Nat} : ∀ (ns : List Nat) (c : Ctx), Keep h n c → Keep h n (reads H D f c ns).2
  | [], _, hk => hk
  | m :: ns, c, hk => reads_keep ns _ ((keep_kept h n).compRead c m hk)

end

section
variable (H : HashFn) (f : Bytes)

/-- the chunk loop alone, from any entry `k`: what it returns does not depend on the marks it starts from -/
theorem scanLoop_marks_indep (hdr : Hdr) (useFull : Bool) (hdet : hdr.detached = false) :
    ∀ (cs : List Chunk) (k pos : Nat) (full : Option Bytes) (v1 v2 : List Int) (ag : Bool),
      v1.length = v2.length → (∀ i, i < k → v1[i]? = v2[i]?) → k + cs.length ≤ v1.length →
      (scanLoop H f hdr useFull cs k pos full v1 ag).1 = (scanLoop H f hdr useFull cs k pos full v2 ag).1 ∧
      (scanLoop H f hdr useFull cs k pos full v1 ag).2.1 = (scanLoop H f hdr useFull cs k pos full v2 ag).2.1 ∧
      (scanLoop H f hdr useFull cs k pos full v1 ag).2.2.2 = (scanLoop H f hdr useFull cs k pos full v2 ag).2.2.2 ∧
      (scanLoop H f hdr useFull cs k pos full v1 ag).2.2.1.length = (scanLoop H f hdr useFull cs k pos full v2 ag).2.2.1.length ∧
      ∀ i, i < k + cs.length →
        (scanLoop H f hdr useFull cs k pos full v1 ag).2.2.1[i]? = (scanLoop H f hdr useFull cs k pos full v2 ag).2.2.1[i]? := by
  intro cs k pos full v1 v2 ag hl hag _
  rw [scanLoop_eq, scanLoop_eq]
  refine ⟨rfl, rfl, rfl, by rw [setMarks_length, setMarks_length, hl], fun i hi => ?_⟩
  rw [setMarks_getElem?, setMarks_getElem?, ← hl]
  split
  · rfl
  · rw [scanMarks_length H f hdr hdet] at *
    exact hag i (by omega)

theorem validateChecksums_indep (c1 c2 : Ctx) (hh : c1.hdr = c2.hdr) (e1 : c1.err = false) (e2 : c2.err = false)
    (hdet : c1.hdr.detached = false) (l1 : c1.valid.length = c1.hdr.chunks.length) (l2 : c2.valid.length = c1.hdr.chunks.length) :
    (validateChecksums H f c1).1 = (validateChecksums H f c2).1 ∧
    (validateChecksums H f c1).2.valid = (validateChecksums H f c2).2.valid := by
  have hm : ∀ v : List Int, v.length = c1.hdr.chunks.length → setMarks v 0 (scanOf H f c1.hdr) = scanOf H f c1.hdr :=
    fun v hv => setMarks_full (by rw [hv]; exact scanMarks_length H f c1.hdr hdet _ _ _)
  rw [validateChecksums_eq H f c1 e1, validateChecksums_eq H f c2 e2, ← hh]
  exact ⟨rfl, by simp only [hm _ l1, hm _ l2]⟩

theorem validateData_indep (c1 c2 : Ctx) (hh : c1.hdr = c2.hdr) (e1 : c1.err = false) (e2 : c2.err = false)
    (h4 : flag4 c1 = false) :
    (validateData H f c1).1 = (validateData H f c2).1 ∧ (validateData H f c1).2.valid = c1.valid ∧
    (validateData H f c2).2.valid = c2.valid := by
  have hf4 : flag4 c2 = false := by unfold flag4 at h4 ⊢; rw [← hh]; exact h4
  rw [validateData_eq H f c1 e1, validateData_eq H f c2 e2, h4, hf4, show dataOff c1 = dataOff c2 by unfold dataOff; rw [hh], hh]
  exact ⟨rfl, rfl, rfl⟩

end

section
variable {H : HashFn} {D : Decomp} {f : Bytes}

/-- `ns`: any read sizes on the context of a fresh open (complete or partial reads, across chunk boundaries, to the end of the
stream or not).  The validators then report what they report on a fresh context, mark for mark, so `find_valid_exact` and
`scan_verdict` describe them. -/
theorem validate_after_reads (h : Hdr) (hdet : h.detached = false) (ns : List Nat)
    (he : (reads H D f (openCtx h) ns).2.err = false) :
    (validateChecksums H f (reads H D f (openCtx h) ns).2).1 = (validateChecksums H f (openCtx h)).1 ∧
    (validateChecksums H f (reads H D f (openCtx h) ns).2).2.valid = (validateChecksums H f (openCtx h)).2.valid ∧
    (flag4 (openCtx h) = false →
      (validateData H f (reads H D f (openCtx h) ns).2).1 = (validateData H f (openCtx h)).1) := by
  have hk0 : Keep h h.chunks.length (openCtx h) := ⟨rfl, by simp [openCtx]⟩
  obtain ⟨k1, k2⟩ := reads_keep (H := H) (D := D) (f := f) ns _ hk0
  have hh : (reads H D f (openCtx h) ns).2.hdr = (openCtx h).hdr := by rw [k1]; rfl
  obtain ⟨a, b⟩ := validateChecksums_indep H f _ (openCtx h) hh he rfl (by rw [k1]; exact hdet) (by rw [k2, k1]) (by rw [k1]; simp [openCtx])
  refine ⟨a, b, fun h4 => ?_⟩
  exact (validateData_indep H f _ (openCtx h) hh he rfl (by unfold flag4 at h4 ⊢; rw [hh]; exact h4)).1

end

/-! non-vacuity of `validate_after_reads`: on the example file of `Props/C02Full.lean` a partial read leaves the context without
error, and the validation afterwards is the validation of a fresh open -/

example : (reads exH exD exFile (openCtx exHdr2) [1, 3]).2.err = false := by decide +kernel

example : (validateChecksums exH exFile (reads exH exD exFile (openCtx exHdr2) [1, 3]).2).1 = 1 := by
  rw [(validate_after_reads (H := exH) (D := exD) (f := exFile) exHdr2 (by decide) [1, 3] (by decide +kernel)).1]
  decide +kernel

end Zck.Stream
