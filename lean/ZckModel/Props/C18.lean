/-
C18 — Checksum backends are interchangeable: the bundled streaming code computes the standard
(FIPS 180-4) digest for every message and every way of splitting it into update calls.
The invariant of the update functions and both `final`s are in Sha/Lemmas.lean.
-/
import ZckModel.Sha.Lemmas
import ZckModel.Pred.C18

namespace Zck.Sha

/-- `SHA1_Update` over any segmentation followed by `SHA1_Final` gives the FIPS 180-4 SHA-1 of the concatenation, for every
message shorter than 2^61 bytes -/
theorem stream1_eq_spec (segs : List Bytes) (h : segs.flatten.length < 2 ^ 61) : stream1 sha1A segs = hash sha1A segs.flatten :=
  final1_spec sha1A rfl rfl _ _ (foldl_flatten_inv (good1_update1 sha1A) segs _ [] (good1_init sha1A)) h

end Zck.Sha

namespace Zck.C18
open Zck.Sha

/-- for any compression function: `update` over any segmentation, then `final`, gives the specified digest as long as the
bit count fits the C counters (`W`, generated from the source) -/
theorem stream_eq_spec (A : Algo) (W : Widths) (segs : List Bytes)
    (hlb : 1 + A.lb ≤ A.bs) (hfb : W.fieldBytes ≤ A.lb)
    (h1 : 8 * segs.flatten.length < 2 ^ W.totBits) (h2 : 8 * segs.flatten.length < 2 ^ W.lenbBits)
    (h3 : 8 * segs.flatten.length < 256 ^ W.fieldBytes) :
    stream A W segs = hash A segs.flatten :=
  final_spec A W _ _ (foldl_flatten_inv (good2_update A W) segs _ [] (good2_init A W)) hlb hfb h1 h2 h3

/-- the widths generated from the bundled SHA-2 code: 64-bit byte counter, 64-bit bit count, written as an 8-byte
big-endian field (a 32-bit `unsigned int` counter makes this obligation fail) -/
theorem widths_are_64 : w256 = ⟨64, 64, 8⟩ ∧ w512 = ⟨64, 64, 8⟩ := ⟨rfl, rfl⟩

/-- the generated tables and initial values are the FIPS 180-4 constants, and the block sizes
are the standard ones (an edited table or constant breaks this obligation) -/
theorem gen_constants_ok :
    Zck.Gen.SHA256_K = k256 ∧ Zck.Gen.SHA256_H0 = iv256 ∧
    Zck.Gen.SHA512_K = k512 ∧ Zck.Gen.SHA512_H0 = iv512 ∧
    Zck.Gen.SHA1_H0 = iv1 ∧ Zck.Gen.SHA1_K = k1 ∧
    Zck.Gen.SHA256_BLOCK = sha256A.bs ∧ Zck.Gen.SHA512_BLOCK = sha512A.bs := by decide +kernel

/-- C18 for all checksum types at once: for every type number (those zchunk does not know have no digest on either
side), every message shorter than 2^61 bytes and every segmentation, the bundled streaming code computes the FIPS digest -/
theorem bundled_eq_zckHash (t : Nat) (segs : List Bytes) (h : segs.flatten.length < 2 ^ 61) :
    bundledHash t segs = zckHash t segs.flatten := by
  have h2 : ∀ A, 1 + A.lb ≤ A.bs → 8 ≤ A.lb → stream A ⟨64, 64, 8⟩ segs = hash A segs.flatten := fun A hlb h8 =>
    stream_eq_spec A ⟨64, 64, 8⟩ segs hlb h8 (by show 8 * _ < 2 ^ 64; omega) (by show 8 * _ < 2 ^ 64; omega)
      (by show 8 * _ < 256 ^ 8; omega)
  unfold bundledHash zckHash
  rw [widths_are_64.1, widths_are_64.2, stream1_eq_spec segs h, h2 sha256A (by decide) (by decide),
    h2 sha512A (by decide) (by decide)]
  rfl

/-- 2^61 bytes is the whole domain on which SHA-256 is defined -/
theorem bundled_sha256 (segs : List Bytes) (h : segs.flatten.length < 2 ^ 61) :
    bundledHash 1 segs = zckHash 1 segs.flatten := bundled_eq_zckHash 1 segs h

/-- from 2^61 bytes on the 64-bit bit count `len_b` of `sha512_final` wraps, while FIPS SHA-512 goes on to 2^125 bytes -/
theorem bundled_sha512 (segs : List Bytes) (h : segs.flatten.length < 2 ^ 61) :
    bundledHash 2 segs = zckHash 2 segs.flatten ∧ bundledHash 3 segs = zckHash 3 segs.flatten :=
  ⟨bundled_eq_zckHash 2 segs h, bundled_eq_zckHash 3 segs h⟩

/-- 2^61 bytes is the whole domain of SHA-1 as well -/
theorem bundled_sha1 (segs : List Bytes) (h : segs.flatten.length < 2 ^ 61) :
    bundledHash 0 segs = zckHash 0 segs.flatten := bundled_eq_zckHash 0 segs h

theorem split_indep (t : Nat) (ht : t = 0 ∨ t = 1 ∨ t = 2 ∨ t = 3) (s1 s2 : List Bytes)
    (hj : s1.flatten = s2.flatten) (h : s1.flatten.length < 2 ^ 61) :
    bundledHash t s1 = bundledHash t s2 := by
  rw [bundled_eq_zckHash t s1 h, bundled_eq_zckHash t s2 (hj ▸ h), hj]

theorem sha512_128 (m : Bytes) : zckHash 3 m = (zckHash 2 m).map (·.take 16) := rfl

/-- the predicate the driver evaluates holds of the bundled model's output -/
theorem c18_model_ok (t : Nat) (ht : t = 0 ∨ t = 1 ∨ t = 2 ∨ t = 3) (segs : List Bytes)
    (h : segs.flatten.length < 2 ^ 61) (d : Bytes) (hd : bundledHash t segs = some d) :
    c18_ok t segs d = true := by
  rw [c18_ok, ← bundled_eq_zckHash t segs h, hd, beq_self_eq_true]

/-! Non-vacuity: the hypothesis on the length is met by a concrete segmentation. -/
example : ([[1, 2], [], [3]] : List Bytes).flatten.length < 2 ^ 61 := by decide

end Zck.C18
