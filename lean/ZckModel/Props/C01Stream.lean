/-
C01 — reading back a well-formed file (completeness of the streaming reader; the converse of `Props/C02Stream.lean`).

`WF`: the file is what the format says a file is — start offsets are running sums, every index entry is all there in the data
section, hashes to its index checksum and decodes (with the dictionary the format prescribes) to exactly its declared length,
the data section hashes to the data checksum, the index is not empty and no declared length reaches the allocation limit.  For such a file and any sequence of read buffer sizes: no read fails, every read
returns either as many bytes as were asked for or is short, a short read means the whole content has been delivered
(`short_read_end`), and `zck_close` then succeeds (`read_back`).  The loop of the model runs on fuel: `mu`, a measure that every
continuing iteration lowers, starts below the fuel given (`mu_lt_fuel`), so on such a file the fuel never runs out.
-/
import ZckModel.Props.C02Decode

namespace Zck.Stream
open Zck.Format Zck.Reader
open Zck.C13 (run_end_le)

section
variable {H : HashFn} {D : Decomp} {f : Bytes} {h : Hdr}

/-- a well-formed file behind header `h` -/
structure WF (H : HashFn) (D : Decomp) (f : Bytes) (h : Hdr) : Prop where
  run : C13.RunFrom 0 0 h.chunks
  needs : AllNeed H D f h h.chunks.length
  present : (fileRead f (dOff h) (total h)).length = total h
  small : ∀ c ∈ h.chunks, c.len < allocLimit
  data : DataOk H f h
  nonempty : h.chunks ≠ []

theorem chunk_end_le (hr : C13.RunFrom 0 0 h.chunks) (k : Nat) (ch : Chunk) (hk : h.chunks[k]? = some ch) :
    ch.start + ch.compLen ≤ total h := by
  have := run_end_le hr k ch hk
  unfold total; omega

theorem P.prefix (wf : WF H D f h) {T : Bytes} {c : Ctx} (hp : P (H := H) (D := D) (f := f) (h := h) T c) :
    T <+: doneFrom D f h 1 (h.chunks.drop 1) := by
  rcases hp with ⟨ht, _, _⟩ | ⟨dv, sk, s, _, hside⟩
  · rw [ht]; exact List.nil_prefix
  · obtain ⟨rest, hrest⟩ := SI.prefix s
    rw [List.append_assoc] at hrest
    exact ⟨rest, hside.cancel wf.needs hrest⟩

/-- what is left to do in the index: twice the bytes of the data section still to be read, plus three per index entry still
to be finished (one more before the first entry is entered); nothing at the end of the stream -/
def stage (h : Hdr) (c : Ctx) : Nat :=
  if c.dataEof then 0 else
  2 * (dOff h + total h - c.pos) +
  match c.dataIdx with
  | none => 3 * h.chunks.length + 1
  | some k => 3 * (h.chunks.length - k)

/-- the measure: `stage`, the bytes still wanted, and 1 while stored bytes are pending.  The weights are chosen so that every
continuing iteration lowers it: handing out bytes lowers the bytes wanted; moving pending bytes of a stored chunk clears the
flag; a read of at least one byte lowers `stage` by 2 and may set the flag; entering or finishing an entry lowers `stage`
by at least 1 resp. 3 and leaves the flag as it was or cleared -/
def mu (h : Hdr) (n : Nat) (c : Ctx) (out : Bytes) : Nat :=
  stage h c + (n - out.length) + (if c.data.isEmpty then 0 else 1)

theorem stage_mid {c : Ctx} {k : Nat} (he : c.dataEof = false) (hi : c.dataIdx = some k) :
    stage h c = 2 * (dOff h + total h - c.pos) + 3 * (h.chunks.length - k) := by
  rw [stage, he, hi]; rfl

theorem stage_start {c : Ctx} (he : c.dataEof = false) (hi : c.dataIdx = none) :
    stage h c = 2 * (dOff h + total h - c.pos) + (3 * h.chunks.length + 1) := by
  rw [stage, he, hi]; rfl

theorem stage_eof {c : Ctx} (he : c.dataEof = true) : stage h c = 0 := by
  rw [stage, he]; rfl

theorem stage_le (c : Ctx) (hp : c.dataEof = true ∨ dOff h ≤ c.pos) : stage h c ≤ 2 * total h + (3 * h.chunks.length + 1) := by
  cases he : c.dataEof with
  | true => rw [stage_eof he]; exact Nat.zero_le _
  | false =>
    have hp : dOff h ≤ c.pos := hp.resolve_left (he ▸ Bool.false_ne_true)
    cases hi : c.dataIdx with
    | none => rw [stage_start he hi]; omega
    | some k => rw [stage_mid he hi]; omega

theorem pending_le_one (c : Ctx) : (if c.data.isEmpty then 0 else 1) ≤ 1 := by split <;> omega

theorem mu_read_lt {n : Nat} {c c' : Ctx} {k m : Nat} (out : Bytes) (he : c.dataEof = false) (hi : c.dataIdx = some k)
    (he' : c'.dataEof = false) (hi' : c'.dataIdx = some k) (hp : c'.pos = c.pos + m) (hm : 0 < m)
    (hb : c.pos + m ≤ dOff h + total h) : mu h n c' out < mu h n c out := by
  have := pending_le_one c'
  have hx : dOff h + total h - c.pos = dOff h + total h - (c.pos + m) + m := by omega
  rw [mu, mu, stage_mid he hi, stage_mid he' hi', hp, hx]
  omega

/-- entering the first entry, or going from entry `k` to entry `j > k`, at the same offset and without new pending bytes -/
theorem mu_enter_lt {n : Nat} {c c' : Ctx} (out : Bytes) (he : c.dataEof = false) (he' : c'.dataEof = false) (hp : c'.pos = c.pos)
    (hd : (if c'.data.isEmpty then 0 else 1) ≤ (if c.data.isEmpty then 0 else 1)) (j : Nat) (hi' : c'.dataIdx = some j)
    (hi : c.dataIdx = none ∨ ∃ k, c.dataIdx = some k ∧ k < j ∧ j ≤ h.chunks.length) : mu h n c' out < mu h n c out := by
  rw [mu, mu, stage_mid he' hi', hp]
  rcases hi with hi | ⟨k, hi, _, _⟩
  · rw [stage_start he hi]; omega
  · rw [stage_mid he hi]; omega

theorem mu_finish_lt {n : Nat} {c c' : Ctx} (out : Bytes) (he : c.dataEof = false) (he' : c'.dataEof = true) {k : Nat}
    (hi : c.dataIdx = some k) (hk : k < h.chunks.length)
    (hd : (if c'.data.isEmpty then 0 else 1) ≤ (if c.data.isEmpty then 0 else 1)) : mu h n c' out < mu h n c out := by
  rw [mu, mu, stage_eof he', stage_mid he hi]
  omega

/-- what an iteration does on a well-formed file: it returns without error, or continues with a smaller measure -/
def StepProg (h : Hdr) (n : Nat) (c : Ctx) (out : Bytes) : Step → Prop
  | .done r _ => 0 ≤ r.ret ∧ r.bytes.length ≤ n
  | .cont c' out' fin' => fin' = false ∧ out'.length ≤ n ∧ mu h n c' out' < mu h n c out

theorem Mid.endOk {ud n dv sk T c k ch} (s : Mid H D f h tr ud n dv sk T c k ch) (wf : WF H D f h)
    (hloc : c.dataLoc = ch.compLen) (hpa : ud = false → T.length + c.dc.length < n) :
    ∃ c2, endDchunk H D c k ch ud = .ok c2 ∧ (c2.data.isEmpty = true ∨ c2.data = c.data) ∧ c2.pos = c.pos ∧
      c2.dataEof = c.dataEof ∧ c2.dataIdx = (if k + 1 < h.chunks.length then some (k + 1) else none) := by
  have hlt := lt_length_of_getElem? s.chk
  obtain ⟨hstl, ⟨d, hHd, hdig⟩, hdec⟩ := (wf.needs k ch hlt s.chk).resolve_left s.nsk
  have hhdr : c.hdr = h := s.base.hdr
  have hch : c.chunkHash = some (stored f h ch) := by rw [s.chash, hloc]; rfl
  have hv : validateChunk H c ch = 1 := validateChunk_eq_one.mpr ⟨_, d, hch, by rw [hhdr]; exact hHd, hdig⟩
  have hdecodes : ∃ plain, Decodes D c ch ud plain := by
    unfold Decodes
    rw [hhdr]
    by_cases hz : h.compType = 0
    · rw [if_pos hz] at hdec; exact ⟨[], by rw [if_pos hz]; exact ⟨hdec, rfl⟩⟩
    · rw [if_neg hz] at hdec
      obtain ⟨p, hD, hp⟩ := hdec
      have hdat : c.data = stored f h ch := by rw [s.dataZ hz, hloc]; rfl
      refine ⟨p, ?_⟩
      rw [if_neg hz, s.dictUsed hpa hz, hdat]
      exact ⟨wf.small ch (List.mem_of_getElem? s.chk), hD, hp⟩
  obtain ⟨plain, hp⟩ := hdecodes
  refine ⟨endCtx c k plain, endDchunk_eq_ok.mpr ⟨plain, hp, hv, rfl⟩, ?_, rfl, rfl, by simp [endCtx, hhdr]⟩
  by_cases hz : c.hdr.compType = 0
  · exact Or.inr (by simp [endCtx, hz])
  · exact Or.inl (by simp [endCtx, hz])

theorem Mid.readProg {ud n dv sk Tp out c k ch} (s : Mid H D f h tr ud n dv sk (Tp ++ out) c k ch) (wf : WF H D f h)
    (hn : 0 < n) (hne : c.dataLoc ≠ ch.compLen) (hout : out.length ≤ n) :
    StepProg h n c out (stepRead f n c ch out) := by
  have hloc := s.loc
  have hend := chunk_end_le wf.run k ch s.chk
  -- the bytes asked for are all there
  have hfull : ∀ rs src, rs = min n (ch.compLen - c.dataLoc) → src = fileRead f c.pos rs →
      rs ≤ ch.compLen - c.dataLoc ∧ 0 < rs ∧ src.length = rs := fun rs src hrs hsrc => by
    have hrs_le : rs ≤ ch.compLen - c.dataLoc := hrs ▸ Nat.min_le_right _ _
    refine ⟨hrs_le, by omega, ?_⟩
    rw [hsrc, s.pos, Nat.add_assoc]
    exact fileRead_full_sub f (dOff h) (total h) (ch.start + c.dataLoc) rs wf.present (by omega)
  refine stepRead_cases f n c ch out (fun rs src hrs hsrc hbad => ?_) (fun rs src hrs hsrc _ _ => ?_)
  · exfalso
    obtain ⟨_, hpos, hlen⟩ := hfull rs src hrs hsrc
    rcases hbad with h0 | ⟨h4, hnone⟩
    · rw [h0] at hlen; exact absurd hlen.symm (Nat.ne_of_gt hpos)
    · rw [flag4_eq s.base.hdr] at h4
      rcases s.fhash with hx | hx
      · rw [h4] at hx; cases hx
      · rw [hnone] at hx; cases tr <;> simp at hx
  · obtain ⟨hle, hpos, hlen⟩ := hfull rs src hrs hsrc
    refine ⟨by rw [hlen]; exact decide_eq_false (Nat.lt_irrefl _), hout, mu_read_lt out s.eof s.idx s.eof s.idx rfl (hlen ▸ hpos) ?_⟩
    rw [s.pos]; omega

theorem tail_prog {ud n dv sk Tp out c} (wf : WF H D f h) (hn : 0 < n)
    (hpa : PA (h := h) ud n sk Tp) (hdc : c.dc = []) (hlt : out.length < n)
    (s1 : SI H D f h tr ud n dv sk (Tp ++ out) c) :
    StepProg h n c out (stepTail H D f n ud c out false) := by
  have hle : out.length ≤ n := by omega
  refine stepTail_cases H D f n ud c out false (fun _ => ⟨by simp, hle⟩) (fun h4 _ hd => ?_)
    (fun _ _ _ => ⟨by simp, hle⟩) (fun i h4 _ hi _ => ?_) (fun k h4 hi hc => ?_) (fun k ch h4 _ hi hc hloc => ?_)
    (fun _ _ _ _ _ _ hf => by cases hf) (fun k ch h4 hi hc hloc _ => (s1.toMid h4 hi hc).readProg wf hn hloc hle)
  · -- pending stored bytes move to the buffer
    refine ⟨rfl, hle, ?_⟩
    have hne : c.data.isEmpty = false := List.isEmpty_eq_false_iff.mpr hd
    -- `stage` does not look at the buffers
    show stage h c + (n - out.length) + 0 < stage h c + (n - out.length) + (if c.data.isEmpty then 0 else 1)
    rw [hne]
    exact Nat.lt_succ_self _
  · -- into the first chunk
    exact ⟨rfl, hle, mu_enter_lt out h4 h4 rfl (Nat.le_refl _) i rfl (Or.inl hi)⟩
  · -- the current chunk is a chunk of the index
    obtain ⟨ch, hc', _⟩ := s1.inChunk h4 hi
    rw [hc] at hc'; cases hc'
  · -- the end of the current chunk
    have s := s1.toMid h4 hi hc
    have hlt' := lt_length_of_getElem? s.chk
    unfold stepEnd
    obtain ⟨c2, he, hdat, hpos, heof, hidx⟩ := s.endOk wf hloc (fun hu => by
      obtain ⟨htp, _, _⟩ := hpa hu
      rw [htp, hdc]; simpa using hlt)
    rw [he]
    refine ⟨rfl, hle, ?_⟩
    have hd0 : (if c2.data.isEmpty = true then 0 else 1) ≤ (if c.data.isEmpty = true then 0 else 1) := by
      rcases hdat with hd | hd
      · rw [hd]; exact Nat.zero_le _
      · rw [hd]; exact Nat.le_refl _
    by_cases hnext : k + 1 < h.chunks.length
    · rw [if_pos hnext] at hidx
      rw [hidx]
      exact mu_enter_lt out s.eof (heof.trans s.eof) hpos hd0 (k + 1) hidx (Or.inr ⟨k, s.idx, Nat.lt_succ_self k, Nat.le_of_lt hnext⟩)
    · rw [if_neg hnext] at hidx
      rw [hidx]
      exact mu_finish_lt out s.eof rfl s.idx hlt' hd0

theorem step_prog {ud n dv sk Tp out c} (wf : WF H D f h) (hn : 0 < n)
    (hpa : PA (h := h) ud n sk Tp) (hout : out.length ≤ n) (s : SI H D f h tr ud n dv sk (Tp ++ out) c) :
    StepProg h n c out (step H D f n ud c out false) := by
  refine step_cases H D f n ud c out false (fun _ => ⟨by simp, hout⟩)
    (fun he => by rw [s.base.noerr] at he; cases he) (fun m _ hlen hmn => ⟨by simp, by show (out ++ c.dc.take m).length ≤ n; rw [hlen]; omega⟩)
    (fun m hm0 hlen hmn => ?_) (fun hlt _ hdc => tail_prog wf hn hpa hdc hlt s)
  refine ⟨rfl, by rw [hlen]; omega, ?_⟩
  show stage h c + (n - (out ++ c.dc.take m).length) + (if c.data.isEmpty then 0 else 1) < mu h n c out
  rw [hlen, mu]
  omega

/-- outcome of a call on a well-formed file: never an error; as many bytes as asked for, or fewer at the end of the stream -/
def CallProg (n : Nat) (r : RdOut × Ctx) : Prop := 0 ≤ r.1.ret ∧ r.1.bytes.length ≤ n

theorem readLoop_prog {ud n dv sk Tp} (wf : WF H D f h) (hn : 0 < n) (hpa : PA (h := h) ud n sk Tp) :
    ∀ (fuel : Nat) (c : Ctx) (out : Bytes), mu h n c out < fuel → out.length ≤ n →
      SI H D f h tr ud n dv sk (Tp ++ out) c → CallProg n (readLoop H D f n ud fuel c out false)
  | 0, _, _, hf, _, _ => by omega
  | fuel + 1, c, out, hf, hout, s => by
    unfold readLoop
    have hp := step_prog wf hn hpa hout s
    have hs := step_SI false wf.run hn hpa s
    cases hst : step H D f n ud c out false with
    | done r c' => rw [hst] at hp; exact hp
    | cont c' out' fin' =>
      rw [hst] at hp hs
      obtain ⟨a1, a2, a3⟩ := hp
      subst a1
      exact readLoop_prog wf hn hpa fuel c' out' (by omega) a2 hs

theorem total_le_len (wf : WF H D f h) : total h ≤ f.length :=
  Nat.le_trans (fileRead_full_iff.mp wf.present) (Nat.sub_le _ _)

theorem mu_lt_fuel {ud n dv sk T c} (wf : WF H D f h) (s : SI H D f h tr ud n dv sk T c) : mu h n c [] < fuelFor f c n := by
  have ht := total_le_len wf
  have hd := pending_le_one c
  have hs : stage h c ≤ 2 * total h + (3 * h.chunks.length + 1) := stage_le c (by
    cases s with
    | start s => exact Or.inr (Nat.le_of_eq s.pos.symm)
    | mid k ch s => exact Or.inr (by rw [s.pos, Nat.add_assoc]; exact Nat.le_add_right _ _)
    | fin s => exact Or.inl s.eof)
  rw [fuelFor, s.base.hdr, mu, List.length_nil]
  omega

theorem import_true (wf : WF H D f h) (d : Chunk) (hd : h.chunks.head? = some d) (hlen : 0 < d.len) (c : Ctx)
    (s : Start D f h false none [] [] c) : (importDict H D f c).1 = true := by
  rw [importDict_eq s hd hlen]
  have hpa : PA (h := h) false d.len [] [] := fun _ => ⟨rfl, rfl, d, hd, rfl⟩
  have hsi : SI H D f h true false d.len none [] ([] ++ []) c := by simpa using SI.start (n := d.len) s
  have hl := readLoop_SI (H := H) (D := D) (f := f) (dv := none) wf.run hlen hpa (fuelFor f c d.len) c [] false hsi
  have hg := readLoop_prog (dv := none) wf hlen hpa (fuelFor f c d.len) c [] (mu_lt_fuel wf hsi) (by simp) hsi
  generalize readLoop H D f d.len false (fuelFor f c d.len) c [] false = r at hl hg ⊢
  have hret : r.1.ret = d.len := by
    rcases hl with hneg | ⟨hrl, hsi', hshort⟩
    · have := hg.1; omega
    · rcases Nat.lt_or_ge r.1.bytes.length d.len with hlt | hge
      · -- a short import would mean the stream ended before the dictionary was complete
        exfalso
        obtain ⟨hdc, hend⟩ := hshort hlt
        have hall := (hsi'.atEnd hend).2.2.1
        rw [hdc, List.append_nil] at hall
        have h0 := List.head?_eq_getElem? ▸ hd
        have hlt1 := lt_length_of_getElem? h0
        rw [done_split 1 hlt1, done_succ D f h 0 d h0, done_zero] at hall
        have hcl := contrib_len_of_need 0 d (wf.needs 0 d hlt1 h0)
        have := congrArg List.length hall
        simp only [List.nil_append, List.length_append] at this
        omega
      · have := hg.2; omega
  rw [if_neg (by simp [hret])]

theorem compRead_prog (wf : WF H D f h) (T : Bytes) (c : Ctx) (n : Nat)
    (hp : P (H := H) (D := D) (f := f) (h := h) T c) : CallProg n (compRead H D f c n) := by
  by_cases hn0 : n = 0
  · subst hn0
    rw [compRead_zero hp]
    exact ⟨by simp, by simp⟩
  rcases compRead_loop wf.run T c n (by omega) hp with ⟨_, hnil | ⟨d, hd, hlen, s, hbig | himp⟩⟩ | ⟨dv, sk, c1, _, _, s, e⟩
  · exact absurd hnil wf.nonempty
  · have := wf.small d (List.mem_of_getElem? (List.head?_eq_getElem? ▸ hd)); omega
  · rw [import_true wf d hd hlen c s] at himp; cases himp
  · rw [e]
    exact readLoop_prog wf (by omega) (fun hu => by cases hu) (fuelFor f c1 n) c1 [] (mu_lt_fuel wf s) (by simp) s

theorem reads_prog (wf : WF H D f h) :
    ∀ (ns : List Nat) (T : Bytes) (c : Ctx), P (H := H) (D := D) (f := f) (h := h) T c →
      ∀ r ∈ (reads H D f c ns).1, 0 ≤ r.ret ∧ r.ret = r.bytes.length
  | [], _, _, _ => by simp [reads]
  | n :: ns, T, c, hp => by
    intro r hr
    simp only [reads, List.mem_cons] at hr
    have hg := compRead_prog wf T c n hp
    have hgood := compRead_P (H := H) wf.run T c n hp
    rcases hgood with hneg | ⟨hret, hp2, _⟩
    · have := hg.1; omega
    · rcases hr with rfl | hr
      · exact ⟨hg.1, hret⟩
      · exact reads_prog wf ns _ _ hp2 r hr

theorem close_at_end (wf : WF H D f h) {T : Bytes} {c : Ctx} (hp : Post (H := H) (D := D) (f := f) (h := h) T c)
    (hend : AtEnd (h := h) c) : close H c = true := by
  obtain ⟨dv, sk, s, _, _⟩ := hp
  refine close_eq_true.mpr ⟨s.base.noerr, ?_⟩
  rw [flag4_eq s.base.hdr, s.base.hdr]
  rcases (s.atEnd hend).2.2.2 with h4 | hf
  · exact Or.inl h4
  · rcases wf.data with h4 | hd
    · exact Or.inl h4
    · exact Or.inr ⟨_, hf, hd⟩

/-- `read_back` from any context in which the invariant holds -/
theorem read_back_from (wf : WF H D f h) (c0 : Ctx) (hp : P (H := H) (D := D) (f := f) (h := h) [] c0)
    (init : List Nat) (nl : Nat) :
    (∀ r ∈ (reads H D f c0 init).1, 0 ≤ r.ret ∧ r.ret = r.bytes.length) ∧
    0 ≤ (compRead H D f (reads H D f c0 init).2 nl).1.ret ∧
    (compRead H D f (reads H D f c0 init).2 nl).1.bytes.length ≤ nl ∧
    ((compRead H D f (reads H D f c0 init).2 nl).1.ret < nl →
      outOf (reads H D f c0 init).1 ++ (compRead H D f (reads H D f c0 init).2 nl).1.bytes = doneFrom D f h 1 (h.chunks.drop 1) ∧
      close H (compRead H D f (reads H D f c0 init).2 nl).2 = true) := by
  have hall := reads_prog wf init [] c0 hp
  have hall0 : ∀ r ∈ (reads H D f c0 init).1, 0 ≤ r.ret := fun r hr => (hall r hr).1
  have hg := compRead_prog wf _ _ nl (by simpa using reads_P (H := H) (D := D) (f := f) wf.run init [] c0 hp hall0)
  refine ⟨hall, hg.1, hg.2, fun hshort => ?_⟩
  obtain ⟨hpost, hdc, hend⟩ := short_read_end wf.run c0 hp init nl hall0 hg.1 hshort
  exact ⟨(post_end hpost hdc hend).1.content, close_at_end wf hpost hend⟩

theorem read_back (wf : WF H D f h) (init : List Nat) (nl : Nat) :
    (∀ r ∈ (reads H D f (openCtx h) init).1, 0 ≤ r.ret ∧ r.ret = r.bytes.length) ∧
    0 ≤ (compRead H D f (reads H D f (openCtx h) init).2 nl).1.ret ∧
    (compRead H D f (reads H D f (openCtx h) init).2 nl).1.bytes.length ≤ nl ∧
    ((compRead H D f (reads H D f (openCtx h) init).2 nl).1.ret < nl →
      outOf (reads H D f (openCtx h) init).1 ++ (compRead H D f (reads H D f (openCtx h) init).2 nl).1.bytes =
        doneFrom D f h 1 (h.chunks.drop 1) ∧
      close H (compRead H D f (reads H D f (openCtx h) init).2 nl).2 = true) :=
  read_back_from wf _ open_P init nl

end

/-! non-vacuity: the example file of `Props/C02Decode.lean` is well-formed, and `read_back` applies to it -/

theorem exWF : WF exH exD exF exHdr :=
  have hs := stream_sound (H := exH) (D := exD) (f := exF) (h := exHdr) (by simp [C13.RunFrom, exHdr]) [2, 2] 7
    (by decide) (by decide) (by decide)
  ⟨by simp [C13.RunFrom, exHdr], hs.1.needs, hs.1.present, by decide, hs.2 (by decide), by decide⟩

example : outOf (reads exH exD exF (openCtx exHdr) [1, 3]).1 ++ (compRead exH exD exF (reads exH exD exF (openCtx exHdr) [1, 3]).2 9).1.bytes
    = doneFrom exD exF exHdr 1 (exHdr.chunks.drop 1) :=
  ((read_back exWF [1, 3] 9).2.2.2 (by decide +kernel)).1

end Zck.Stream
