/-
C01 — what the writer serialises, the reader parses back (`header_create` → `zck_init_read`): `openFile_header`.

For every `Spec` whose fields fit their destinations (`Fits`) the model of the C parser opens the bytes `Encode.header` produces,
followed by any data section, and reports exactly the spec.  Each stage of the reader meets the conditions under which it succeeds
(HeaderLemmas' `.._eq_ok`, `decSize_take_ok`) because every compressed integer stands where the serialiser put it
(`f.drop pos = enc v ++ tail`, `C20.value_enc`).
-/
import ZckModel.Encode
import ZckModel.Props.C13

namespace Zck.EncP
open Zck.Header Zck.Compint Zck.Format Zck.Encode Zck.Reader

theorem decSize_at (f tail : Bytes) (K pos lim v : Nat) (hK : K ≤ f.length) (hl : lim ≤ K)
    (hd : f.drop pos = enc v ++ tail) (hfit : pos + (enc v).length ≤ lim) (hv : v < 2^64) :
    decSize (f.take K) pos lim = .ok (v, (enc v).length) :=
  (decSize_take_ok hl hK).mpr ⟨hd ▸ C20.value_enc v tail, hfit, C20.enc_len_le_ten v hv, hv⟩

theorem decInt_at (f tail : Bytes) (K pos lim v : Nat) (hK : K ≤ f.length) (hl : lim ≤ K)
    (hd : f.drop pos = enc v ++ tail) (hfit : pos + (enc v).length ≤ lim) (hv : v < 2^31) :
    decInt (f.take K) pos lim = .ok (v, (enc v).length) :=
  (decInt_take_ok hl hK).mpr
    ⟨hd ▸ C20.value_enc v tail, hfit, C20.enc_len_le_ten v (Nat.lt_trans hv (by decide)), hv⟩

theorem enc_len (v : Nat) (hv : v < 2^64) : 1 ≤ (enc v).length ∧ (enc v).length ≤ 10 :=
  ⟨C20.enc_len_pos v, C20.enc_len_le_ten v hv⟩

theorem readLead_enc (ht hlen ds : Nat) (rest : Bytes) (hds : hsize ht = some ds) (hht : ht < 2^31) (hhl : hlen < 2^64)
    (hrest : ds ≤ rest.length) (h25 : 25 ≤ (magicFile ++ enc ht ++ enc hlen ++ rest).length) :
    readLead {} (magicFile ++ enc ht ++ enc hlen ++ rest) =
      .ok ⟨false, ht, ds, hlen, 5 + (enc ht).length + (enc hlen).length, 5 + (enc ht).length + (enc hlen).length + ds,
        (if 25 < 5 + (enc ht).length + (enc hlen).length + ds then 5 + (enc ht).length + (enc hlen).length + ds else 25),
        rest.take ds⟩ := by
  generalize hf : magicFile ++ enc ht ++ enc hlen ++ rest = f at h25
  have hd5 : f.drop 5 = enc ht ++ (enc hlen ++ rest) := by
    rw [← hf]; simp only [List.append_assoc]; exact List.drop_left' rfl
  have hd6 := drop_add hd5 rfl
  have hd7 := drop_add hd6 rfl
  have hmag : f.take 5 = magicFile := by rw [← hf]; rfl
  have hfl : f.length = 5 + (enc ht).length + (enc hlen).length + rest.length := by
    rw [← hf]; simp only [List.length_append, magicFile, List.length_cons, List.length_nil]
  have h10a := C20.enc_len_le_ten ht (Nat.lt_trans hht (by decide))
  have h10b := C20.enc_len_le_ten hlen hhl
  exact (readLead_eq_ok {} f _).mpr ⟨⟨Or.inl rfl, Or.inl rfl, Or.inl rfl⟩, _, _, ht, ds, hlen, h25, Or.inl hmag,
    ⟨hd5 ▸ C20.value_enc _ _, by omega, h10a, hht⟩, hds, ⟨hd6 ▸ C20.value_enc _ _, by omega, h10b, hhl⟩,
    by omega, by unfold fileRead; rw [hmag, hd7]; rfl⟩

/-- `P` = the lead, `tail` = index, signatures, data -/
theorem readPreface_enc (P dd tail : Bytes) (l : Lead) (flags ct isz : Nat)
    (hL : l.leadSize = P.length) (hdd : dd.length = l.ds)
    (hflags : flags = 0 ∨ flags = 4) (hct : ct = 0 ∨ ct = 2) (hisz : isz < 2^31)
    (hK : l.leadSize + l.headerLen ≤ (P ++ dd ++ enc flags ++ enc ct ++ enc isz ++ tail).length)
    (hfit : l.ds + (enc flags).length + (enc ct).length + (enc isz).length ≤ l.headerLen) :
    readPreface ((P ++ dd ++ enc flags ++ enc ct ++ enc isz ++ tail).take (l.leadSize + l.headerLen)) l =
      .ok ⟨dd, flags, ct, isz, l.ds + (enc flags).length + (enc ct).length + (enc isz).length⟩ := by
  generalize hf : P ++ dd ++ enc flags ++ enc ct ++ enc isz ++ tail = f at hK
  have hd0 : f.drop l.leadSize = dd ++ (enc flags ++ (enc ct ++ (enc isz ++ tail))) := by
    rw [← hf, hL]; simp only [List.append_assoc, List.drop_left]
  have hd1 := drop_add hd0 hdd
  have hd2 := drop_add hd1 rfl
  have hd3 := drop_add hd2 rfl
  -- each part ends inside the header: its end is a partial sum of `hfit`
  have fit2 : l.ds + (enc flags).length + (enc ct).length ≤ l.headerLen := Nat.le_trans (Nat.le_add_right _ _) hfit
  have fit1 : l.ds + (enc flags).length ≤ l.headerLen := Nat.le_trans (Nat.le_add_right _ _) fit2
  have fit0 : l.ds ≤ l.headerLen := Nat.le_trans (Nat.le_add_right _ _) fit1
  have hfl : flags % 2 = 0 ∧ flags < 8 ∧ flags < 2^64 ∧ ¬ flags / 2 % 2 = 1 := by rcases hflags with rfl | rfl <;> decide
  have hopt : optPart (f.take (l.leadSize + l.headerLen)) l.leadSize l.headerLen flags
      (l.ds + (enc flags).length + (enc ct).length) = .ok (l.ds + (enc flags).length + (enc ct).length) := by
    unfold optPart; rw [if_neg hfl.2.2.2]; rfl
  have hKl : l.leadSize + l.headerLen ≤ l.leadSize + l.headerLen := Nat.le_refl _
  have hin : l.leadSize + l.ds ≤ l.leadSize + l.headerLen := Nat.add_le_add_left fit0 _
  exact (readPreface_eq_ok _ l _).mpr ⟨fit0, by rw [List.length_take, Nat.min_eq_left hK]; exact hin,
    flags, _, decSize_at f _ _ _ _ _ hK hKl hd1 (by omega) hfl.2.2.1, hfl.1, hfl.2.1,
    ct, _, decInt_at f _ _ _ _ _ hK hKl hd2 (by omega) (by rcases hct with rfl | rfl <;> decide), hct,
    _, hopt,
    isz, _, decInt_at f _ _ _ _ _ hK hKl (by rw [← Nat.add_assoc, ← Nat.add_assoc]; exact hd3)
      (by omega) hisz,
    by rw [Reader.fileRead_take hin, fileRead_at hd0 hdd]⟩

theorem readSig_enc (f tail : Bytes) (l : Lead) (p : Pre) (hK : l.leadSize + l.headerLen ≤ f.length)
    (hd : f.drop (l.leadSize + p.prefaceSize + p.indexSize) = enc 0 ++ tail)
    (hfit : p.prefaceSize + p.indexSize + (enc 0).length ≤ l.headerLen) :
    readSig (f.take (l.leadSize + l.headerLen)) l p = .ok () := by
  exact (readSig_eq_ok _ l p).mpr ⟨0, _, decInt_at f _ _ _ _ _ hK (Nat.le_refl _) hd (by omega) (by decide), rfl⟩

/-- the entries as a reader numbers them: position in the index, start = running sum of stored sizes -/
def renum (u : Bool) : Nat → Nat → List Chunk → List Chunk
  | _, _, [] => []
  | n, s, c :: cs => ⟨n, c.digest, if u then c.udigest else none, c.compLen, c.len, s⟩ :: renum u (n + 1) (s + c.compLen) cs

/-- every field of the entries fits where the reader puts it -/
def EntFits (u : Bool) (cs hdrTotal : Nat) : Nat → List Chunk → Prop
  | _, [] => True
  | idxLoc, c :: rest =>
    c.digest.length = cs ∧ (u = true → ∃ ud, c.udigest = some ud ∧ ud.length = cs) ∧
    c.compLen ≤ 2^63 - 1 - idxLoc ∧ idxLoc + c.compLen ≤ 2^63 - 1 - hdrTotal ∧ c.len ≤ 2^63 - 1 ∧
    EntFits u cs hdrTotal (idxLoc + c.compLen) rest

/-- the second checksum of an entry as `index_create` writes it: nothing without the flag -/
def udBytes (u : Bool) (c : Chunk) : Bytes := if u then c.udigest.getD [] else []

theorem udPart_enc (f rest : Bytes) (K base cs : Nat) (u : Bool) (c : Chunk) (length : Nat) (hK : K ≤ f.length)
    (hu : u = true → ∃ ud, c.udigest = some ud ∧ ud.length = cs) (hd : f.drop (base + length) = udBytes u c ++ rest)
    (hfit : base + length + (udBytes u c).length ≤ K) :
    udPart (f.take K) base K cs u length = .ok (if u then c.udigest else none, length + (udBytes u c).length) := by
  unfold udPart udBytes at *
  cases u with
  | false => rfl
  | true =>
    obtain ⟨ud, h1, h2⟩ := hu rfl
    simp_res [↓reduceIte, h1, Option.getD_some, h2, rdSlice_take_ok hK] at hd hfit ⊢
    exact ⟨hfit, hfit, by rw [fileRead_at hd h2]⟩

/-- every part of an index entry (checksum `cs`, second checksum `ud`, the two sizes `e1`, `e2`) ends inside the index, which ends
inside the buffer -/
theorem entry_parts {base length cs ud e1 e2 R size K : Nat} (hsz : length + (cs + ud + e1 + e2 + R) = size)
    (hbs : base + size ≤ K) (h1 : 1 ≤ e1) :
    length + (cs + (ud + (e1 + e2))) + R = size ∧ base + length + cs ≤ K ∧ length < size ∧
    base + (length + cs) + ud ≤ K ∧ base + (length + (cs + ud)) + e1 ≤ K ∧ base + (length + (cs + (ud + e1))) + e2 ≤ K := by
  omega

theorem entryLoop_enc (f : Bytes) (K base size cs : Nat) (u : Bool) (hdrTotal : Nat) (hK : K ≤ f.length) (hbs : base + size ≤ K) :
    ∀ (ents : List Chunk) (fuel length count idxLoc : Nat) (tail : Bytes),
      f.drop (base + length) = encEntries u ents ++ tail → length + (encEntries u ents).length = size →
      ents.length ≤ fuel → EntFits u cs hdrTotal idxLoc ents →
      entryLoop (f.take K) base size K cs u hdrTotal fuel length count idxLoc =
        .ok (renum u count idxLoc ents, size, idxLoc + C13.sumLen ents)
  | [], fuel, length, count, idxLoc, tail, _, hsz, _, _ => by
    simp only [encEntries, List.length_nil, Nat.add_zero] at hsz
    subst hsz
    cases fuel
    · exact (entryLoop_zero ..).mpr ⟨Nat.lt_irrefl _, rfl⟩
    · exact (entryLoop_succ ..).mpr (Or.inl ⟨Nat.lt_irrefl _, rfl⟩)
  | c :: rest, 0, _, _, _, _, _, _, hf, _ => by simp at hf
  | c :: rest, fuel + 1, length, count, idxLoc, tail, hd, hsz, hf, hfits => by
    obtain ⟨hdg, hu, hcl1, hcl2, hln, hrest⟩ := hfits
    have h64a : c.compLen < 2^64 := Nat.lt_of_le_of_lt (Nat.le_trans hcl1 (Nat.sub_le _ _)) (by decide)
    have h64b : c.len < 2^64 := Nat.lt_of_le_of_lt hln (by decide)
    -- the entry is four parts, each of which ends inside the index
    simp only [encEntries, List.length_append] at hsz
    have hel : (encEntry u c).length = cs + (udBytes u c).length + (enc c.compLen).length + (enc c.len).length := by
      rw [← hdg]; simp only [encEntry, udBytes, List.length_append]
    obtain ⟨s0, s1, s2, s3, s4, s5⟩ := entry_parts (hel ▸ hsz) hbs (C20.enc_len_pos c.compLen)
    -- the file at the start of each part
    have hd0 : f.drop (base + length) =
        c.digest ++ (udBytes u c ++ (enc c.compLen ++ (enc c.len ++ (encEntries u rest ++ tail)))) := by
      rw [hd]; simp only [encEntries, encEntry, udBytes, List.append_assoc]
    have hd1 := drop_add hd0 hdg
    have hd2 := drop_add hd1 rfl
    have hd3 := drop_add hd2 rfl
    have hd4 := drop_add hd3 rfl
    simp only [Nat.add_assoc] at hd1 hd2 hd3 hd4
    have ih := entryLoop_enc f K base size cs u hdrTotal hK hbs rest fuel _ (count + 1) (idxLoc + c.compLen) tail
      hd4 s0 (Nat.le_of_succ_le_succ hf) hrest
    -- the loop body in the order of the program: bounds, the two checksums, the two sizes with their guards, the rest, the result
    exact (entryLoop_succ ..).mpr (Or.inr ⟨s2, s1, by rw [List.length_take, Nat.min_eq_left hK]; exact s1,
      if u then c.udigest else none, length + cs + (udBytes u c).length, udPart_enc f _ K base cs u c (length + cs) hK hu hd1 s3,
      c.compLen, (enc c.compLen).length,
      by simpa only [Nat.add_assoc] using decSize_at f _ K _ K _ hK (Nat.le_refl _) hd2 s4 h64a, hcl1, hcl2,
      c.len, (enc c.len).length,
      by simpa only [Nat.add_assoc] using decSize_at f _ K _ K _ hK (Nat.le_refl _) hd3 s5 h64b, hln,
      renum u (count + 1) (idxLoc + c.compLen) rest, size, idxLoc + c.compLen + C13.sumLen rest,
      by simpa only [Nat.add_assoc] using ih,
      by rw [Reader.fileRead_take s1, fileRead_at hd0 hdg]; simp only [renum, C13.sumLen, Nat.add_assoc]⟩)

theorem renum_length (u : Bool) : ∀ (n st : Nat) (cs : List Chunk), (renum u n st cs).length = cs.length
  | _, _, [] => rfl
  | n, st, c :: cs => by simp [renum, renum_length u (n + 1) (st + c.compLen) cs]

theorem renum_get (u : Bool) : ∀ (cs : List Chunk) (n s j : Nat) (ch : Chunk), (renum u n s cs)[j]? = some ch →
    ∃ c, cs[j]? = some c ∧ ch = ⟨n + j, c.digest, if u then c.udigest else none, c.compLen, c.len, s + C13.sumLen (cs.take j)⟩
  | [], _, _, _, _, h => by simp [renum] at h
  | c :: cs, n, s, 0, ch, h => by
    simp only [renum, List.getElem?_cons_zero, Option.some.injEq] at h
    exact ⟨c, rfl, by rw [← h]; simp [C13.sumLen]⟩
  | c :: cs, n, s, j + 1, ch, h => by
    simp only [renum, List.getElem?_cons_succ] at h
    obtain ⟨c', h1, h2⟩ := renum_get u cs (n + 1) (s + c.compLen) j ch h
    refine ⟨c', by simpa using h1, ?_⟩
    rw [h2]
    simp only [List.take_succ_cons, C13.sumLen]
    congr 1 <;> omega

theorem renum_run (u : Bool) : ∀ (cs : List Chunk) (n s : Nat), C13.RunFrom n s (renum u n s cs)
  | [], _, _ => trivial
  | c :: cs, n, s => ⟨rfl, rfl, renum_run u cs (n + 1) (s + c.compLen)⟩

theorem renum_sum (u : Bool) : ∀ (cs : List Chunk) (n s : Nat), C13.sumLen (renum u n s cs) = C13.sumLen cs
  | [], _, _ => rfl
  | c :: cs, n, s => by simp [renum, C13.sumLen, renum_sum u cs (n + 1) (s + c.compLen)]

theorem encEntries_len_ge (u : Bool) : ∀ cs : List Chunk, cs.length ≤ (encEntries u cs).length
  | [] => by simp [encEntries]
  | c :: cs => by
    have := encEntries_len_ge u cs
    have := C20.enc_len_pos c.len
    simp only [encEntries, encEntry, List.length_append, List.length_cons]
    omega

theorem readIndex_enc (f tail : Bytes) (l : Lead) (p : Pre) (s : Spec) (cs : Nat)
    (hK : l.leadSize + l.headerLen ≤ f.length)
    (hd : f.drop (l.leadSize + p.prefaceSize) = encIndex s ++ tail)
    (hisz : p.indexSize = (encIndex s).length) (hfl : p.flags = s.flags)
    (hfit : p.prefaceSize + p.indexSize ≤ l.headerLen)
    (hcs : hsize s.chunkHashType = some cs) (hcht : s.chunkHashType < 2^31) (hcnt : s.chunks.length < 2^64)
    (hne : s.chunks ≠ [])
    (hents : EntFits (withU s) cs (l.leadSize + l.headerLen) 0 s.chunks) :
    readIndex (f.take (l.leadSize + l.headerLen)) l p =
      .ok ⟨s.chunkHashType, s.chunks.length, renum (withU s) 0 0 s.chunks, C13.sumLen s.chunks⟩ := by
  have hilen : (enc s.chunkHashType).length + (enc s.chunks.length).length + (encEntries (withU s) s.chunks).length =
      p.indexSize := by
    rw [hisz]; simp only [encIndex, List.length_append]
  have hd0 : f.drop (l.leadSize + p.prefaceSize) =
      enc s.chunkHashType ++ (enc s.chunks.length ++ (encEntries (withU s) s.chunks ++ tail)) := by
    rw [hd]; simp only [encIndex, List.append_assoc]
  have hd1 := drop_add hd0 rfl
  have hd2 := drop_add hd1 rfl
  -- the index, and so each of its parts, ends inside the header
  have hin : l.leadSize + p.prefaceSize + p.indexSize ≤ l.leadSize + l.headerLen := by
    rw [Nat.add_assoc]; exact Nat.add_le_add_left hfit _
  have h2 : (enc s.chunkHashType).length + (enc s.chunks.length).length ≤ p.indexSize := hilen ▸ Nat.le_add_right _ _
  have h1 : (enc s.chunkHashType).length ≤ p.indexSize := Nat.le_trans (Nat.le_add_right _ _) h2
  have hloop := entryLoop_enc f (l.leadSize + l.headerLen) (l.leadSize + p.prefaceSize) p.indexSize cs (withU s)
    (l.leadSize + l.headerLen) hK hin s.chunks p.indexSize _ 0 0 tail (by rw [← Nat.add_assoc]; exact hd2) hilen
    (Nat.le_trans (encEntries_len_ge (withU s) s.chunks) (hilen ▸ Nat.le_add_left _ _)) hents
  have hKl : l.leadSize + l.headerLen ≤ l.leadSize + l.headerLen := Nat.le_refl _
  rw [readIndex_eq_ok, show decide (p.flags / 4 % 2 = 1) = withU s by unfold withU; rw [hfl]]
  refine ⟨hin,
    _, _, decInt_at f _ _ _ _ _ hK hKl hd0 (Nat.le_trans (Nat.add_le_add_left h1 _) hin) hcht, cs, hcs,
    _, _, decSize_at f _ _ _ _ _ hK hKl hd1 (by rw [Nat.add_assoc]; exact Nat.le_trans (Nat.add_le_add_left h2 _) hin) hcnt,
    _, _, _, hloop, rfl, (renum_length _ _ _ _).symm, ?_, by rw [Nat.zero_add]⟩
  rw [renum_length]; exact fun h0 => hne (List.eq_nil_of_length_eq_zero h0)

/-- every field of the spec fits its destination -/
structure Fits (s : Spec) (ds cs : Nat) : Prop where
  hds : hsize s.hashType = some ds
  hcs : hsize s.chunkHashType = some cs
  hdd : s.dataDigest.length = ds
  hflags : s.flags = 0 ∨ s.flags = 4
  hct : s.compType = 0 ∨ s.compType = 2
  hne : s.chunks ≠ []
  hisz : (encIndex s).length < 2^31
  hents : EntFits (withU s) cs ((encLead0 s).length + ds + (encBody s).length) 0 s.chunks

/-- what a reader reports for the bytes `header_create` wrote -/
def hdrOf (s : Spec) (ds : Nat) (dg : Bytes) : Hdr :=
  ⟨false, s.hashType, s.chunkHashType, s.flags, s.compType, (encLead0 s).length + ds, (encBody s).length, dg, s.dataDigest,
   s.chunks.length, renum (withU s) 0 0 s.chunks, C13.sumLen s.chunks⟩

theorem hsize_bounds (t d : Nat) (h : hsize t = some d) : t < 4 ∧ 16 ≤ d ∧ d ≤ 64 := by
  unfold hsize at h
  split at h <;> simp at h <;> omega

/-- the sizes of what `header_create` writes for a spec that fits: the lead is 23 to 89 bytes long (identifier, two integers, a
checksum of 16 to 64 bytes), the rest of the header 22 bytes (a checksum and five integers at least) to less than 2^32 -/
theorem Fits.sizes {s : Spec} {ds cs : Nat} (hf : Fits s ds cs) :
    s.chunks.length < 2^31 ∧ (22 ≤ (encBody s).length ∧ (encBody s).length < 2^32) ∧
    (23 ≤ (encLead0 s).length + ds ∧ (encLead0 s).length + ds ≤ 89) ∧ s.hashType < 2^31 ∧ s.chunkHashType < 2^31 ∧
    (encBody s).length = ds + (enc s.flags).length + (enc s.compType).length + (enc (encIndex s).length).length +
      (encIndex s).length + (enc 0).length := by
  have hbody : (encBody s).length = ds + (enc s.flags).length + (enc s.compType).length + (enc (encIndex s).length).length +
      (encIndex s).length + (enc 0).length := by
    simp only [encBody, encPreface, List.length_append, hf.hdd]
  have hl0 : (encLead0 s).length = 5 + (enc s.hashType).length + (enc (encBody s).length).length := by
    simp only [encLead0, magicFile, List.length_append, List.length_cons, List.length_nil]
  have hisz := hf.hisz
  obtain ⟨ht4, hd16, hd64⟩ := hsize_bounds _ _ hf.hds
  obtain ⟨hc4, -, -⟩ := hsize_bounds _ _ hf.hcs
  have hidx : s.chunks.length + 2 ≤ (encIndex s).length := by
    have := encEntries_len_ge (withU s) s.chunks
    have := C20.enc_len_pos s.chunkHashType
    have := C20.enc_len_pos s.chunks.length
    simp only [encIndex, List.length_append]; omega
  have h3 := enc_len s.flags (by rcases hf.hflags with h | h <;> rw [h] <;> decide)
  have h4 := enc_len s.compType (by rcases hf.hct with h | h <;> rw [h] <;> decide)
  have h5 := enc_len (encIndex s).length (Nat.lt_trans hisz (by decide))
  have h6 := enc_len 0 (by decide)
  have hB : 22 ≤ (encBody s).length ∧ (encBody s).length < 2^32 := by omega
  have h11 := enc_len s.hashType (Nat.lt_trans ht4 (by decide))
  have h12 := enc_len (encBody s).length (Nat.lt_trans hB.2 (by decide))
  exact ⟨by omega, hB, by omega, Nat.lt_trans ht4 (by decide), Nat.lt_trans hc4 (by decide), hbody⟩

/-- C01 (header round trip).  The model of `zck_init_read` opens what `header_create` wrote — followed by any data section — and
reports exactly what was serialised: types, flags, checksums, and the entries in order, numbered by position, with start offsets
the running sums of the stored sizes. -/
theorem openFile_header (H : Format.HashFn) (s : Spec) (ds cs : Nat) (dg data : Bytes) (hf : Fits s ds cs)
    (hH : H s.hashType (encLead0 s ++ encBody s) = some dg) (hdg : dg.length = ds) :
    openFile H (encLead0 s ++ dg ++ encBody s ++ data) = .ok (hdrOf s ds dg) := by
  have hdd := hf.hdd
  obtain ⟨hcnt, hB, hL, hht, hcht, hbody⟩ := hf.sizes
  generalize hfdef : encLead0 s ++ dg ++ encBody s ++ data = f
  have hflen : f.length = (encLead0 s).length + ds + (encBody s).length + data.length := by
    rw [← hfdef]; simp only [List.length_append, hdg]
  have hpre : (encPreface s (encIndex s).length).length =
      ds + (enc s.flags).length + (enc s.compType).length + (enc (encIndex s).length).length := by
    simp only [encPreface, List.length_append, hdd]
  -- the file as each stage sees it
  have e1 : f = magicFile ++ enc s.hashType ++ enc (encBody s).length ++ (dg ++ encBody s ++ data) := by
    rw [← hfdef]; simp only [encLead0, List.append_assoc]
  have e2 : f = (encLead0 s ++ dg) ++ s.dataDigest ++ enc s.flags ++ enc s.compType ++ enc (encIndex s).length ++
      (encIndex s ++ enc 0 ++ data) := by
    rw [← hfdef]; simp only [encBody, encPreface, List.append_assoc]
  have hdi : f.drop ((encLead0 s).length + ds + (encPreface s (encIndex s).length).length) = encIndex s ++ (enc 0 ++ data) := by
    rw [← hfdef]
    have : encLead0 s ++ dg ++ encBody s ++ data =
        (encLead0 s ++ dg ++ encPreface s (encIndex s).length) ++ (encIndex s ++ (enc 0 ++ data)) := by
      simp only [encBody, List.append_assoc]
    rw [this]; exact List.drop_left' (by simp only [List.length_append, hdg])
  have hdsig := drop_add hdi rfl
  have h25 : 25 ≤ f.length := by
    rw [hflen]; exact Nat.le_trans (Nat.le_trans (by decide : 25 ≤ 23 + 22) (Nat.add_le_add hL.1 hB.1)) (Nat.le_add_right _ _)
  have hlead := readLead_enc s.hashType (encBody s).length ds (dg ++ encBody s ++ data) hf.hds hht (Nat.lt_trans hB.2 (by decide))
    (by rw [List.length_append, List.length_append, hdg]; exact Nat.le_trans (Nat.le_add_right _ _) (Nat.le_add_right _ _))
    (by rw [← e1]; exact h25)
  rw [← e1] at hlead
  -- the lead, as a variable with its fields
  obtain ⟨l, hl, hlead⟩ : ∃ l, l = _ ∧ readLead {} f = .ok l := ⟨_, rfl, hlead⟩
  have hl0 : 5 + (enc s.hashType).length + (enc (encBody s).length).length = (encLead0 s).length := by
    simp only [encLead0, magicFile, List.length_append, List.length_cons, List.length_nil]
  have hlL : l.leadSize = (encLead0 s).length + ds := by rw [hl, ← hl0]
  have hlH : l.headerLen = (encBody s).length := by rw [hl]
  have hlds : l.ds = ds := by rw [hl]
  have hldg : l.digest = dg := by
    rw [hl]; simp only [List.append_assoc]
    rw [List.take_append_of_le_length (Nat.le_of_eq hdg.symm), List.take_of_length_le (Nat.le_of_eq hdg)]
  have hK : l.leadSize + l.headerLen ≤ f.length := by rw [hlL, hlH, hflen]; exact Nat.le_add_right _ _
  have hdin : digestInput f l = encLead0 s ++ encBody s := by
    have t1 : f.take (encLead0 s).length = encLead0 s := by rw [← hfdef]; simp only [List.append_assoc, List.take_left]
    have t2 : f.drop ((encLead0 s).length + ds) = encBody s ++ data := by
      rw [← hfdef, ← hdg]; simp only [List.append_assoc]; rw [← List.length_append, ← List.append_assoc, List.drop_left]
    unfold digestInput
    rw [hlL, hlH, t2, List.take_left, show l.digestLoc = (encLead0 s).length by rw [hl, hl0], t1]
    simp only [encLead0, magicFile, List.append_assoc, List.cons_append, List.nil_append, List.drop_succ_cons, List.drop_zero]
  -- the buffer of `read_lead` holds at most 25 - 23 bytes behind the lead, fewer than the 22 the rest of the header has at least
  have hbuf : l.bufLen - l.leadSize ≤ l.headerLen := by
    have : l.bufLen = if 25 < l.leadSize then l.leadSize else 25 := by rw [hl]
    rw [this, hlH, hlL]
    split
    · rw [Nat.sub_self]; exact Nat.zero_le _
    · exact Nat.le_trans (Nat.sub_le_sub_left hL.1 25) (Nat.le_trans (by decide) hB.1)
  have hrh : readHeaderFromFile H f l = .ok (f.take (l.leadSize + l.headerLen)) :=
    (readHeaderFromFile_eq_ok H f l _).mpr ⟨⟨by rw [hlL]; exact Nat.ne_of_gt (Nat.lt_of_lt_of_le (by decide) hL.1),
        by rw [hlH]; exact Nat.ne_of_gt (Nat.lt_of_lt_of_le (by decide) hB.1)⟩,
      by rw [hlL, hlH]; exact Nat.lt_of_le_of_lt (Nat.add_le_add hL.2 (Nat.le_of_lt hB.2)) (by decide),
      hbuf, hK, by rw [hdin, hldg, show l.hashType = s.hashType by rw [hl]]; exact hH, rfl⟩

  have hpf := readPreface_enc (encLead0 s ++ dg) s.dataDigest (encIndex s ++ enc 0 ++ data) l s.flags s.compType (encIndex s).length
    (by rw [hlL, List.length_append, hdg]) (by rw [hdd, hlds]) hf.hflags hf.hct hf.hisz (by rw [← e2]; exact hK)
    (by rw [hlds, hlH, hbody]; exact Nat.le_add_right_of_le (Nat.le_add_right _ _))
  rw [← e2] at hpf
  obtain ⟨p, hp, hpf⟩ : ∃ p, p = _ ∧ readPreface (f.take (l.leadSize + l.headerLen)) l = .ok p := ⟨_, rfl, hpf⟩
  have hpsz : p.prefaceSize = (encPreface s (encIndex s).length).length := by rw [hp, hpre, hlds]
  have hpis : p.indexSize = (encIndex s).length := by rw [hp]
  have hix := readIndex_enc f (enc 0 ++ data) l p s cs hK (by rw [hlL, hpsz]; exact hdi) hpis (by rw [hp])
    (by rw [hpsz, hpis, hlH, hbody, hpre]; exact Nat.le_add_right _ _) hf.hcs hcht (Nat.lt_trans hcnt (by decide)) hf.hne
    (by rw [hlL, hlH]; exact hf.hents)
  have hsg := readSig_enc f data l p hK (by rw [hlL, hpsz, hpis]; exact hdsig)
    (by rw [hpsz, hpis, hlH, hbody, hpre]; exact Nat.le_refl _)
  refine (openFile_eq_ok H f _).mpr ⟨l, _, p, _, hlead, hrh, hpf, hix, hsg, ?_⟩
  unfold info hdrOf
  rw [hlL, hlH, hldg, hp, hl]

end Zck.EncP
