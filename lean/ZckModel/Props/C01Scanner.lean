/-
C01 — the `zck` tool's split-string scanner (src/zck.c, the read loop; model `Tools.zckOps`) hands the library exactly the input:
for EVERY split string, input and cutting of the input into `read(2)` blocks, the bytes of the `zck_write` calls, in order, are the
input (`scanner_preserves`).  The loop invariant (`Inv`) accounts for the partial match: `hp` of its bytes were held back from
earlier blocks (and are written from the split string itself when the match fails or completes), `q` lie in the current block.
With the chunker's termination and the writer's accounting (`Props/C16Term.lean`) the chunks `zck` closes are the input file
(`zck_tool_chunks`); `Props/C01Tool.lean` goes on from there to what `unzck` reads back.
-/
import ZckModel.Tools
import ZckModel.BytesLemmas
import ZckModel.Props.C16Term

namespace Zck.ToolsP
open Zck.Writer Zck.Tools

/-- bytes handed to the library by calls recorded newest first -/
def wr (ops : List Op) : Bytes := written ops.reverse

@[simp] theorem wr_write (bs : Bytes) (ops : List Op) : wr (Op.write bs :: ops) = wr ops ++ bs := by
  simp [wr, written_append, written]

@[simp] theorem wr_end (ops : List Op) : wr (Op.endChunk :: ops) = wr ops := by
  simp [wr, written_append, written]

/-- the loop invariant: `P` = the earlier blocks, `hp` bytes of the partial match are held back from them, `q` lie in this block.
The conjuncts of `ex`, in order: the match is these two parts; the part in this block fits behind `start`; bytes are held back only
while nothing of this block is queued and all of it belongs to the match; everything read so far is written, held back or queued;
the part in this block ends at `l` and is the matching piece of the split string. -/
structure Inv (split P data : Bytes) (l start matched : Nat) (ops : List Op) : Prop where
  hl : l ≤ data.length
  hst : start ≤ l
  hm : matched < split.length
  ex : ∃ hp q, matched = hp + q ∧ q ≤ l - start ∧ (0 < hp → start = 0 ∧ q = l) ∧
        wr ops ++ split.take hp ++ (data.take l).drop start = P ++ data.take l ∧
        (data.take l).drop (l - q) = (split.take matched).drop hp

theorem wr_ite (c : Prop) [Decidable c] (bs : Bytes) (ops : List Op) (h : ¬ c → bs = []) :
    wr (if c then Op.write bs :: ops else ops) = wr ops ++ bs := by
  split
  · exact wr_write bs ops
  · rw [h ‹_›, List.append_nil]

section
variable {split P data : Bytes} {l start matched : Nat} {ops : List Op}

/-- one more byte of the block is read: whatever is accounted for (`A` = written and held back) stays accounted for -/
theorem read_succ {A : Bytes} (hlt : l < data.length) (hst : start ≤ l)
    (e : A ++ (data.take l).drop start = P ++ data.take l) :
    A ++ (data.take (l + 1)).drop start = P ++ data.take (l + 1) := by
  rw [take_succ_getD data l 0 hlt, List.drop_append_of_le_length (by rw [List.length_take]; omega),
    ← List.append_assoc, e, List.append_assoc]

/-- the bytes held back from earlier blocks are those the block is too short to hold -/
theorem held_eq {l start matched hp q : Nat} (e1 : matched = hp + q) (e2 : q ≤ l - start) (e3 : 0 < hp → start = 0 ∧ q = l) :
    matched - l = hp := by
  rcases Nat.eq_zero_or_pos hp with h | h
  · rw [e1, h, Nat.zero_add]
    exact Nat.sub_eq_zero_of_le (Nat.le_trans e2 (Nat.sub_le l start))
  · rw [e1, (e3 h).2]
    exact Nat.add_sub_cancel ..

/-- the byte does not continue the match (if there was one): the held-back bytes, if any, are written now, the matcher starts over -/
theorem step_reset (inv : Inv split P data l start matched ops) (hlt : l < data.length) :
    Inv split P data (l + 1) start 0 (if l < matched then Op.write (split.take (matched - l)) :: ops else ops) := by
  obtain ⟨hp, q, e1, e2, e3, e4, e5⟩ := inv.ex
  have hst := inv.hst
  refine ⟨hlt, Nat.le_succ_of_le hst, Nat.zero_lt_of_lt inv.hm, 0, 0, rfl, Nat.zero_le _, fun h => absurd h (Nat.lt_irrefl 0),
    read_succ hlt hst ?_, by simp⟩
  rw [wr_ite _ _ _ (fun h => by rw [Nat.sub_eq_zero_of_le (Nat.le_of_not_lt h)]; rfl), held_eq e1 e2 e3, List.take_zero,
    List.append_nil]
  exact e4

theorem step_none (inv : Inv split P data l start matched ops) (hlt : l < data.length) (h0 : matched = 0) :
    Inv split P data (l + 1) start 0 ops := by
  subst h0
  exact step_reset inv hlt

theorem step_mismatch (inv : Inv split P data l start matched ops) (hlt : l < data.length) (hpos : 0 < matched) :
    Inv split P data (l + 1) start 0 (if l < matched then Op.write (split.take (matched - l)) :: ops else ops) :=
  step_reset inv hlt

theorem step_partial (inv : Inv split P data l start matched ops) (hlt : l < data.length)
    (heq : data.getD l 0 = split.getD matched 0) (hne : matched + 1 ≠ split.length) :
    Inv split P data (l + 1) start (matched + 1) ops := by
  obtain ⟨hp, q, e1, e2, e3, e4, e5⟩ := inv.ex
  have hst := inv.hst
  have hm := inv.hm
  refine ⟨hlt, Nat.le_succ_of_le hst, Nat.lt_of_le_of_ne hm hne, hp, q + 1, congrArg (· + 1) e1,
    by omega, fun h => ⟨(e3 h).1, congrArg (· + 1) (e3 h).2⟩,
    read_succ hlt hst e4, ?_⟩
  -- the byte at `l` is appended on both sides: to the matched piece of this block and, being equal, to that of the split string
  rw [take_succ_getD data l 0 hlt, Nat.add_sub_add_right,
    List.drop_append_of_le_length (by rw [List.length_take]; omega), e5,
    take_succ_getD split matched 0 hm, heq,
    List.drop_append_of_le_length (by rw [List.length_take]; omega)]

/-- `(data.take l).drop start` = the bytes in front of the match ++ the `q` matched bytes -/
theorem window_split (hs : start ≤ l) (q : Nat) (hq : q ≤ l - start) :
    (data.take l).drop start = (data.drop start).take (l - start - q) ++ (data.take l).drop (l - q) := by
  rw [← List.take_append_drop (l - start - q) ((data.take l).drop start), List.drop_drop, List.drop_take, List.take_take,
    Nat.min_eq_left (Nat.sub_le _ _), ← Nat.add_sub_assoc hq, Nat.add_sub_of_le hs]

/-- what is waiting when the queue is emptied (a complete match, the end of a block): everything read so far is the bytes written,
the queued bytes of this block in front of the match, and the match -/
theorem Inv.flush (inv : Inv split P data l start matched ops) :
    wr (if l > start + matched then Op.write ((data.drop start).take (l - (start + matched))) :: ops else ops) ++ split.take matched =
      P ++ data.take l := by
  obtain ⟨hp, q, e1, e2, e3, e4, e5⟩ := inv.ex
  have hst := inv.hst
  rw [wr_ite _ _ _ (fun h => by rw [Nat.sub_eq_zero_of_le (Nat.le_of_not_lt h)]; rfl), ← e4, List.append_assoc, List.append_assoc,
    window_split hst q e2, e5]
  congr 1
  rcases Nat.eq_zero_or_pos hp with h0 | hpp
  · -- the match lies in this block
    subst h0
    rw [e1, Nat.zero_add, ← Nat.sub_sub]
    rfl
  · -- the match began in an earlier block: nothing of this block is queued, all of it belongs to the match
    obtain ⟨s0, ql⟩ := e3 hpp
    rw [show l - (start + matched) = 0 by omega, show l - start - q = 0 by omega]
    have := List.take_append_drop hp (split.take matched)
    rw [List.take_take, Nat.min_eq_left (e1 ▸ Nat.le_add_right hp q)] at this
    exact this.symm

theorem step_full (inv : Inv split P data l start matched ops) (hlt : l < data.length)
    (heq : data.getD l 0 = split.getD matched 0) (hfull : matched + 1 = split.length) :
    Inv split P data (l + 1) (l + 1) 0
      (Op.write split :: Op.endChunk ::
        (if l + 1 > start + (matched + 1) then Op.write ((data.drop start).take (l + 1 - (start + (matched + 1)))) :: ops else ops)) := by
  have hm := inv.hm
  refine ⟨hlt, Nat.le_refl _, Nat.zero_lt_of_lt hm, 0, 0, rfl, Nat.zero_le _, fun h => absurd h (Nat.lt_irrefl 0), ?_, by simp⟩
  have hf := inv.flush
  simp only [← Nat.add_assoc, Nat.add_sub_add_right, gt_iff_lt, Nat.add_lt_add_iff_right]
  have hd : (data.take (l + 1)).drop (l + 1) = [] := List.drop_eq_nil_of_le (by rw [List.length_take]; exact Nat.min_le_left _ _)
  -- `flush` accounts for all up to `l` with `split.take matched` waiting; the byte at `l` makes that the whole split string, now written
  rw [wr_write, wr_end, List.take_zero, List.append_nil, hd, List.append_nil,
    take_succ_getD data l 0 hlt, ← List.append_assoc, ← hf, heq, List.append_assoc, ← take_succ_getD split matched 0 hm, hfull,
    List.take_length]

theorem scanLoop_inv : ∀ (todo l start matched : Nat) (ops : List Op), l + todo = data.length →
    Inv split P data l start matched ops →
    Inv split P data data.length (scanLoop split data todo l start matched ops).1
      (scanLoop split data todo l start matched ops).2.1 (scanLoop split data todo l start matched ops).2.2
  | 0, l, start, matched, ops, hlen, inv => by
    subst hlen
    exact inv
  | todo + 1, l, start, matched, ops, hlen, inv => by
    have hlt : l < data.length := by omega
    have hlen' : l + 1 + todo = data.length := by omega
    unfold scanLoop
    by_cases heq : data.getD l 0 = split.getD matched 0
    · rw [if_pos heq]
      by_cases hfull : matched + 1 = split.length
      · rw [if_pos hfull]
        exact scanLoop_inv todo (l + 1) (l + 1) 0 _ hlen' (step_full inv hlt heq hfull)
      · rw [if_neg hfull]
        exact scanLoop_inv todo (l + 1) start (matched + 1) ops hlen' (step_partial inv hlt heq hfull)
    · rw [if_neg heq]
      by_cases hpos : matched > 0
      · rw [if_pos hpos]
        exact scanLoop_inv todo (l + 1) start 0 _ hlen' (step_mismatch inv hlt hpos)
      · rw [if_neg hpos]
        have h0 : matched = 0 := Nat.eq_zero_of_not_pos hpos
        subst h0
        exact scanLoop_inv todo (l + 1) start 0 ops hlen' (step_none inv hlt rfl)

end

/-- between blocks: everything read so far has been written except the `matched` held-back bytes of a partial match -/
def Between (split P : Bytes) (matched : Nat) (ops : List Op) : Prop :=
  matched < split.length ∧ wr ops ++ split.take matched = P

theorem inv_of_between {split P : Bytes} {matched : Nat} {ops : List Op} (data : Bytes) (h : Between split P matched ops) :
    Inv split P data 0 0 matched ops :=
  ⟨Nat.zero_le _, Nat.le_refl _, h.1, matched, 0, rfl, Nat.zero_le _, fun _ => ⟨rfl, rfl⟩, by simp [h.2], by simp⟩

theorem scanBlock_between {split P : Bytes} {matched : Nat} {ops : List Op} (data : Bytes) (h : Between split P matched ops) :
    Between split (P ++ data) (scanBlock split data matched ops).1 (scanBlock split data matched ops).2 := by
  have inv := scanLoop_inv (split := split) (P := P) (data := data) data.length 0 0 matched ops (Nat.zero_add _) (inv_of_between data h)
  have hf := inv.flush
  rw [List.take_length] at hf
  exact ⟨inv.hm, hf⟩

theorem scanAll_written (split : Bytes) : ∀ (blocks : List Bytes) (P : Bytes) (matched : Nat) (ops : List Op),
    Between split P matched ops → written (scanAll split blocks matched ops) = P ++ blocks.flatten
  | [], P, matched, ops, h => by
    -- at the end of the input the held-back bytes are written
    show wr (if matched > 0 then Op.write (split.take matched) :: ops else ops) = _
    rw [wr_ite _ _ _ (fun hm => by rw [Nat.eq_zero_of_not_pos hm]; rfl), h.2]
    exact (List.append_nil P).symm
  | b :: bs, P, matched, ops, h => by
    unfold scanAll
    have hb := scanBlock_between b h
    generalize scanBlock split b matched ops = r at hb
    obtain ⟨m, ops'⟩ := r
    simp only at hb ⊢
    rw [scanAll_written split bs (P ++ b) m ops' hb]
    simp [List.append_assoc]

theorem written_map_write : ∀ (blocks : List Bytes), written (blocks.map Op.write) = blocks.flatten
  | [] => rfl
  | b :: bs => by simp [written, written_map_write bs]

/-- C01 (the `zck` tool's scanner loses nothing).  For every split string, every input and every way `read(2)` cuts the input
into blocks, the bytes handed to `zck_write` by the scanner, in order, are exactly the input: held-back partial matches are written
when they fail, when they complete, and at the end of the input; nothing is written twice. -/
theorem scanner_preserves (split : Bytes) (blocks : List Bytes) : written (zckOps split blocks) = blocks.flatten := by
  unfold zckOps
  by_cases he : split.isEmpty = true
  · rw [if_pos he]; exact written_map_write blocks
  · rw [if_neg he]
    have hne : 0 < split.length := by
      cases split with
      | nil => simp at he
      | cons x xs => simp
    have := scanAll_written split blocks [] 0 [] ⟨hne, by simp [wr, written]⟩
    simpa using this

/-- C01 (the `zck` tool, from the input file to the chunks).  For every legal configuration, split string, input and
cutting into read blocks, the calls `zck` makes complete and the data chunks of the closed file, concatenated, are the input. -/
theorem zck_tool_chunks (cfg : Cfg) (hl : Legal cfg.norm) (hW : cfg.W = 48) (hb : cfg.bits = 15) (split : Bytes) (blocks : List Bytes) :
    ∃ cs, closeChunks cfg (zckOps split blocks) = some cs ∧ cs.flatten = blocks.flatten := by
  obtain ⟨cs, h1, h2⟩ := C16T.written_back_total cfg hl hW hb (zckOps split blocks)
  exact ⟨cs, h1, by rw [h2, scanner_preserves]⟩

/-! non-vacuity (tests): a split string straddling a block edge, a failed partial match, a match at the end of the input -/
example : zckOps [1, 2] [[5, 1], [2, 7, 1], [3, 1]] =
    [Op.write [5], Op.endChunk, Op.write [1, 2], Op.write [7], Op.write [1], Op.write [3], Op.write [1]] := by decide +kernel
example : written (zckOps [1, 2] [[5, 1], [2, 7, 1], [3, 1]]) = [5, 1, 2, 7, 1, 3, 1] := by decide +kernel

end Zck.ToolsP
