/-
Lemmas about the model of local chunk reuse (`Copy.lean`), proved once next to it: what one `write_and_verify_chunk` does to
the file and to the marks; an induction principle for `zck_copy_chunks`.
-/
import ZckModel.BytesLemmas

namespace Zck.Copy
open Zck.Format

/-- The three outcomes of `write_and_verify_chunk`: source short (the complete `BUF` pieces are written, no mark changes),
checksum mismatch (the extent is zero-filled, mark -1), match (mark 1).  `max` because the copy writes the source's stored
size and `zero_chunk` the target's. -/
theorem writeAndVerify_spec (H : HashFn) (srcF : Bytes) (src tgtH : Hdr) (t : Tgt) (k : Nat) (sc tc : Chunk) :
    let r := writeAndVerify H srcF src tgtH t k sc tc
    let off := dataOff tgtH + tc.start
    (∀ i, i < off ∨ off + max sc.compLen tc.compLen ≤ i → r.f.getD i 0 = t.f.getD i 0) ∧ t.f.length ≤ r.f.length ∧
    (r.valid = t.valid ∨ r.valid = t.valid.set k (-1) ∨
      (r.valid = t.valid.set k 1 ∧ ∃ data, data.length = sc.compLen ∧ H src.chunkHashType data = some sc.digest ∧
        (r.f.drop off).take data.length = data)) := by
  intro r off
  have hr : r = writeAndVerify H srcF src tgtH t k sc tc := rfl
  unfold writeAndVerify at hr
  generalize hdat : (srcF.drop (dataOff src + sc.start)).take sc.compLen = data at hr
  have hd : data.length ≤ sc.compLen := hdat ▸ List.length_take_le _ _
  by_cases h1 : data.length < sc.compLen
  · rw [if_pos h1] at hr
    rw [hr]
    refine ⟨fun i hi => getD_writeAt_outside ?_, length_writeAt_ge _ _ _, Or.inl rfl⟩
    have := Nat.div_mul_le_self data.length BUF
    rw [List.length_take_of_le this]
    omega
  · rw [if_neg h1] at hr
    by_cases h2 : (H src.chunkHashType data == some sc.digest) = true
    · rw [if_pos h2] at hr
      rw [hr]
      exact ⟨fun i hi => getD_writeAt_outside (by omega), length_writeAt_ge _ _ _,
        Or.inr (Or.inr ⟨rfl, data, by omega, by simpa using h2, fileRead_writeAt_self _ _ _⟩)⟩
    · rw [if_neg h2] at hr
      rw [hr]
      refine ⟨fun i hi => ?_, Nat.le_trans (length_writeAt_ge _ _ _) (length_writeAt_ge _ _ _), Or.inr (Or.inl rfl)⟩
      rw [getD_writeAt_outside (by rw [length_zeros]; omega), getD_writeAt_outside (by omega)]

theorem writeAndVerify_getD_ne (H : HashFn) (srcF : Bytes) (src tgtH : Hdr) (t : Tgt) (k : Nat) (sc tc : Chunk) (j : Nat)
    (hj : j ≠ k) : (writeAndVerify H srcF src tgtH t k sc tc).valid.getD j 0 = t.valid.getD j 0 := by
  rcases (writeAndVerify_spec H srcF src tgtH t k sc tc).2.2 with h | h | ⟨h, _⟩ <;> rw [h] <;> exact getD_set_of_ne hj

/-- Induction over `zck_copy_chunks`; the hypotheses of a step are the tests the loop makes before it calls
`write_and_verify_chunk`. -/
theorem copyLoop_induct (H : HashFn) (srcF : Bytes) (src tgtH : Hdr) (P : Tgt → Prop) : ∀ (cs : List Chunk) (k : Nat) (t : Tgt),
    (∀ tc n sc t, (tc, n) ∈ cs.zipIdx k → t.valid.getD n 0 ≠ 1 → findSrc src tc.digest = some sc → sc.len = tc.len →
      sc.compLen = tc.compLen → P t → P (writeAndVerify H srcF src tgtH t n sc tc)) →
    P t → P (copyLoop H srcF src tgtH cs k t)
  | [], _, _, _, h => h
  | tc :: rest, k, t, step, h => by
    unfold copyLoop
    apply copyLoop_induct H srcF src tgtH P rest (k + 1) _
      (fun tc' n sc t' hm => step tc' n sc t' (by rw [List.zipIdx_cons]; exact List.mem_cons_of_mem _ hm))
    split
    · exact h
    · rename_i hnv
      split
      · rename_i sc hfind
        split
        · rename_i hsz
          exact step tc k sc t (by rw [List.zipIdx_cons]; exact List.mem_cons_self) hnv hfind hsz.1 hsz.2 h
        · exact h
      · exact h

theorem copyChunks_induct (H : HashFn) (srcF : Bytes) (src tgtH : Hdr) (P : Tgt → Prop) (t : Tgt)
    (step : ∀ tc n sc t, tgtH.chunks[n]? = some tc → t.valid.getD n 0 ≠ 1 → findSrc src tc.digest = some sc → sc.len = tc.len →
      sc.compLen = tc.compLen → P t → P (writeAndVerify H srcF src tgtH t n sc tc)) (h : P t) :
    P (copyChunks H srcF src tgtH t) :=
  copyLoop_induct H srcF src tgtH P tgtH.chunks 0 t
    (fun tc n sc t' hm => step tc n sc t' (List.mem_zipIdx_iff_getElem?.mp hm)) h

end Zck.Copy
