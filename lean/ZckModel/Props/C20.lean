/-
C20 — Compressed-integer codec: exact, bounded reads, overflow-rejecting.
The decoders equal the specification (`decSize_eq_spec`, `decInt_eq_spec` in ZckModel/CompintLemmas.lean); here what that gives.
-/
import ZckModel.CompintLemmas

namespace Zck.C20
open Zck.Compint

/-- bounded reads: decoding never reads beyond the end of the buffer it was given. -/
theorem dec_in_bounds (m : Bytes) (pos maxLen : Nat) (hm : maxLen ≤ m.length) (i : Nat) :
    decSize m pos maxLen ≠ .oob i := by
  rw [decSize_eq_spec hm]; exact specDec_not_oob _

/-- exactness: success returns the exact value and length, which fit. -/
theorem dec_exact (m : Bytes) (pos maxLen v n : Nat) (hm : maxLen ≤ m.length) :
    decSize m pos maxLen = .ok (v, n) ↔
      value (window m pos maxLen) = some (v, n) ∧ n ≤ 10 ∧ v < 2^64 := by
  rw [decSize_eq_spec hm, specDec_eq_ok]

/-- failure: the decoder fails exactly when the encoding is unterminated within the
buffer, longer than ten bytes, or denotes a value ≥ 2^64. -/
theorem dec_fail_iff (m : Bytes) (pos maxLen : Nat) (hm : maxLen ≤ m.length) :
    decSize m pos maxLen = .err ↔
      (value (window m pos maxLen) = none ∨
       ∃ v n, value (window m pos maxLen) = some (v, n) ∧ (10 < n ∨ 2^64 ≤ v)) := by
  rw [decSize_eq_spec hm]
  unfold specDec
  cases value (window m pos maxLen) with
  | none => simp
  | some p =>
    simp only [reduceCtorEq, Option.some.injEq, false_or, ite_eq_right_iff, imp_false]
    exact ⟨fun h => ⟨p.1, p.2, rfl, by omega⟩, fun ⟨v, n, e, h⟩ => by subst e; simp only; omega⟩

/-- C20 (round trip): encoding any 64-bit value and decoding the result, at any offset of
any buffer that contains the whole encoding, returns the same value and consumes exactly the
bytes produced (at most ten). -/
theorem dec_enc (v : Nat) (hv : v < 2^64) (pre tail : Bytes) (maxLen : Nat)
    (h1 : pre.length + (enc v).length ≤ maxLen)
    (h2 : maxLen ≤ (pre ++ enc v ++ tail).length) :
    decSize (pre ++ enc v ++ tail) pre.length maxLen = .ok (v, (enc v).length) ∧
    (enc v).length ≤ 10 := by
  refine ⟨?_, enc_len_le_ten v hv⟩
  rw [dec_exact _ _ _ _ _ h2, window_eq, List.append_assoc, List.drop_left, value_take]
  exact ⟨⟨value_enc v _, by omega⟩, enc_len_le_ten v hv, hv⟩

theorem encInt_spec (v : Int) : encInt v = if v < 0 then none else some (enc v.toNat) := rfl

/-- the prefix a decode looked at determines its value: extending the buffer does not change
a successful decode ("the exact mathematical value of the encoding") -/
theorem value_append (w tail : Bytes) (v n : Nat) (h : value w = some (v, n)) :
    value (w ++ tail) = some (v, n) := by
  have := (value_take (w := w ++ tail) (k := w.length)).mp (by rw [List.take_left]; exact h)
  exact this.1

/-! test vectors, through `decSize_eq_spec` / `decInt_eq_spec`, whose hypothesis `maxLen ≤ m.length` each of the buffers meets -/

example : decSize [0x00, 0x81, 0xFF] 0 3 = .ok (128, 2) := by
  rw [decSize_eq_spec (by decide)]; decide
example : decSize [0x00, 0x00, 0x00, 0x00, 0x00, 0x00, 0x00, 0x00, 0x00, 0x82] 0 10 = .err := by
  rw [decSize_eq_spec (by decide +kernel)]; decide +kernel
example : decSize [0x7f, 0x7f, 0x7f, 0x7f, 0x7f, 0x7f, 0x7f, 0x7f, 0x7f, 0x81] 0 10
            = .ok (2^64 - 1, 10) := by
  rw [decSize_eq_spec (by decide +kernel)]; decide +kernel
example : decSize [0x01, 0x02, 0x03] 2 3 = .err := by      -- cursor on the last byte
  rw [decSize_eq_spec (by decide)]; decide
example : decInt [0x00, 0x00, 0x00, 0x00, 0x90] 0 5 = .err := by   -- 2^32 as int
  rw [decInt_eq_spec (by decide +kernel)]; decide +kernel
example : enc 300 = [44, 130] := by simp [enc]

end Zck.C20
