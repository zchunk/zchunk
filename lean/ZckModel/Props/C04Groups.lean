/-
C04 — a request's ranges read as groups of adjacent extents.  `zck_get_missing_range` coalesces touching extents into one range
(C10's `specRanges`).  Read backwards, the ranges of a request are the spans of the groups into which its extents fall
(`specRanges_groups`), the server's slice for a span is the concatenation of the slices of the group's extents (`sliceIncl_group`),
and the range index the callbacks walk (`mkRidx`) is that of the groups one after the other (`mkGroups_flatten`).  For `req_ready`
and `round_complete` (C04Complete.lean).
-/
import ZckModel.Update
import ZckModel.Props.C10
import ZckModel.Props.C05Complete
namespace Zck.C04
open Zck.Dl Zck.C05 Zck.Update

/-- consecutive extents touch -/
def Adj : List C10.Ext → Prop
  | [] => True
  | [_] => True
  | x :: y :: r => x.start + x.len = y.start ∧ Adj (y :: r)

/-- what `headD` and `getLastD` fall back to; no group is empty, so it is never met -/
def dflt : C10.Ext := ⟨0, 0, 0⟩

/-- first byte of the first extent, last byte of the last -/
def spanOf (g : List C10.Ext) : Nat × Nat :=
  ((g.headD dflt).start, (g.getLastD dflt).start + (g.getLastD dflt).len - 1)

/-- the groups of adjacent extents; `cur` is the group being built -/
def groupFrom : List C10.Ext → List C10.Ext → List (List C10.Ext)
  | cur, [] => [cur]
  | cur, x :: rest =>
    if (cur.getLastD dflt).start + (cur.getLastD dflt).len = x.start then groupFrom (cur ++ [x]) rest
    else cur :: groupFrom [x] rest

def groups : List C10.Ext → List (List C10.Ext)
  | [] => []
  | x :: rest => groupFrom [x] rest

theorem getLastD_mem_ne (g : List C10.Ext) (h : g ≠ []) : g.getLastD dflt ∈ g := by
  cases g with
  | nil => exact absurd rfl h
  | cons a r => rw [List.getLastD_cons]; exact List.getLastD_mem_cons

theorem adj_snoc : ∀ (cur : List C10.Ext) (x : C10.Ext), Adj cur →
    (cur.getLastD dflt).start + (cur.getLastD dflt).len = x.start → Adj (cur ++ [x])
  | [], _, _, _ => trivial
  | [a], x, _, hl => by simpa [Adj] using hl
  | a :: b :: r, x, ha, hl => by
    have : Adj ((b :: r) ++ [x]) := adj_snoc (b :: r) x ha.2 (by simpa using hl)
    exact ⟨ha.1, this⟩

theorem snoc_append_last : ∀ (rs : List (Nat × Nat)) (p : Nat × Nat) (s e : Nat),
    C10.snoc (rs ++ [p]) s e = rs ++ (if p.2 + 1 = s then [(p.1, e)] else [p, (s, e)])
  | [], p, s, e => by simp [C10.snoc]
  | [q], p, s, e => by simp [C10.snoc]
  | q :: q2 :: rs, p, s, e => by
    have ih := snoc_append_last (q2 :: rs) p s e
    simp only [List.cons_append] at ih ⊢
    rw [C10.snoc, ih]

/-- C10's coalescing merges an extent into the last range exactly when the grouping appends it to `cur` -/
theorem groupFrom_spec : ∀ (rest cur : List C10.Ext) (rs : List (Nat × Nat)), cur ≠ [] → Adj cur → (∀ x ∈ cur ++ rest, 0 < x.len) →
    C10.specRangesFrom (rs ++ [spanOf cur]) rest = rs ++ (groupFrom cur rest).map spanOf ∧
    (groupFrom cur rest).flatten = cur ++ rest ∧ ∀ g ∈ groupFrom cur rest, g ≠ [] ∧ Adj g
  | [], cur, rs, hne, ha, _ => by simp [C10.specRangesFrom, groupFrom, hne, ha]
  | x :: rest, cur, rs, hne, ha, hpos => by
    have hlast : 0 < (cur.getLastD dflt).len := hpos _ (List.mem_append_left _ (getLastD_mem_ne cur hne))
    rw [C10.specRangesFrom, snoc_append_last, groupFrom]
    by_cases hm : (cur.getLastD dflt).start + (cur.getLastD dflt).len = x.start
    · -- `x` touches the group: same range, same group
      obtain ⟨i1, i2, i3⟩ := groupFrom_spec rest (cur ++ [x]) rs (by simp) (adj_snoc cur x ha hm)
        (by rw [← List.append_cons]; exact hpos)
      have hsp : spanOf (cur ++ [x]) = ((spanOf cur).1, x.start + x.len - 1) := by
        unfold spanOf
        rw [List.getLastD_concat]
        cases cur with
        | nil => exact absurd rfl hne
        | cons a r => rfl
      rw [if_pos (by simp only [spanOf]; omega), if_pos hm, ← hsp]
      exact ⟨i1, by rw [i2]; simp, i3⟩
    · obtain ⟨i1, i2, i3⟩ := groupFrom_spec rest [x] (rs ++ [spanOf cur]) (by simp) trivial
        (fun y hy => hpos y (List.mem_append_right _ hy))
      rw [if_neg (by simp only [spanOf]; omega), if_neg hm]
      refine ⟨?_, by rw [List.flatten_cons, i2]; simp, fun g hg => ?_⟩
      · have : rs ++ [spanOf cur, (x.start, x.start + x.len - 1)] = (rs ++ [spanOf cur]) ++ [spanOf [x]] :=
          (List.append_assoc rs [spanOf cur] [spanOf [x]]).symm
        rw [this, i1]
        simp
      · rcases List.mem_cons.mp hg with rfl | hg'
        · exact ⟨hne, ha⟩
        · exact i3 g hg'

/-- the ranges of a request are the spans of its groups of adjacent extents -/
theorem specRanges_groups (exts : List C10.Ext) (hpos : ∀ x ∈ exts, 0 < x.len) :
    C10.specRanges exts = (groups exts).map spanOf ∧ (groups exts).flatten = exts ∧
    (∀ g ∈ groups exts, g ≠ [] ∧ Adj g) := by
  cases exts with
  | nil => exact ⟨rfl, rfl, fun g hg => by simp [groups] at hg⟩
  | cons x rest =>
    obtain ⟨i1, i2, i3⟩ := groupFrom_spec rest [x] [] (by simp) trivial hpos
    exact ⟨by simpa [C10.specRanges, C10.specRangesFrom, C10.snoc, spanOf, groups] using i1, by simpa [groups] using i2, i3⟩

def sumLens : List C10.Ext → Nat
  | [] => 0
  | x :: r => x.len + sumLens r

theorem sumLens_pos (g : List C10.Ext) (hne : g ≠ []) (hp : ∀ x ∈ g, 0 < x.len) : 0 < sumLens g := by
  cases g with
  | nil => exact absurd rfl hne
  | cons x r => exact Nat.lt_of_lt_of_le (hp x List.mem_cons_self) (Nat.le_add_right _ _)

theorem slice_group (B : Bytes) : ∀ (g : List C10.Ext), g ≠ [] → Adj g → (∀ x ∈ g, 0 < x.len) →
    (spanOf g).2 + 1 = (spanOf g).1 + sumLens g ∧
    (B.drop (spanOf g).1).take (sumLens g) = (g.map fun x => (B.drop x.start).take x.len).flatten
  | [], h, _, _ => absurd rfl h
  | [x], _, _, hp => by
    have := hp x (by simp)
    simp only [spanOf, List.headD_cons, List.getLastD_cons, List.getLastD_nil, sumLens, List.map_cons, List.map_nil,
      List.flatten_cons, List.flatten_nil, List.append_nil, Nat.add_zero, and_true]
    omega
  | x :: y :: r, _, ha, hp => by
    obtain ⟨i1, i3⟩ := slice_group B (y :: r) (by simp) ha.2 (fun z hz => hp z (List.mem_cons_of_mem _ hz))
    have hadj := ha.1
    refine ⟨?_, ?_⟩
    · simp only [spanOf, List.headD_cons, List.getLastD_cons, sumLens] at i1 ⊢
      omega
    · simp only [spanOf, List.headD_cons, sumLens, List.map_cons, List.flatten_cons]
      rw [List.take_add, List.drop_drop, hadj]
      congr 1

theorem sliceIncl_group (B : Bytes) (g : List C10.Ext) (hne : g ≠ []) (ha : Adj g) (hp : ∀ x ∈ g, 0 < x.len) :
    sliceIncl B (spanOf g) = (g.map fun x => (B.drop x.start).take x.len).flatten := by
  obtain ⟨i1, i3⟩ := slice_group B g hne ha hp
  have hs := sumLens_pos g hne hp
  unfold sliceIncl
  rw [← i3]
  congr 1
  omega

theorem span_bounds (B : Bytes) (g : List C10.Ext) (hne : g ≠ []) (ha : Adj g) (hp : ∀ x ∈ g, 0 < x.len)
    (hin : ∀ x ∈ g, x.start + x.len ≤ B.length) : (spanOf g).1 ≤ (spanOf g).2 ∧ (spanOf g).2 < B.length := by
  obtain ⟨i1, _⟩ := slice_group B g hne ha hp
  have hl := getLastD_mem_ne g hne
  have := hp _ hl
  have := hin _ hl
  have h2 : (spanOf g).2 = (g.getLastD dflt).start + (g.getLastD dflt).len - 1 := rfl
  have hs := sumLens_pos g hne hp
  omega

theorem sliceIncl_length (B : Bytes) (r : Nat × Nat) (h1 : r.1 ≤ r.2) (h2 : r.2 < B.length) :
    (sliceIncl B r).length = r.2 - r.1 + 1 := by
  unfold sliceIncl
  exact List.length_take_of_le (by rw [List.length_drop]; omega)

def toIdx (g : List C10.Ext) : List (Nat × Nat) := g.map fun x => (x.number, x.len)

/-- the request index group by group; the payload offsets run on from one group to the next -/
def mkGroups : List (List C10.Ext) → Nat → List (List RChunk)
  | [], _ => []
  | g :: gs, off => mkRidx (toIdx g) off :: mkGroups gs (off + sumLens g)

theorem mkRidx_append : ∀ (a b : List C10.Ext) (off : Nat),
    mkRidx (toIdx (a ++ b)) off = mkRidx (toIdx a) off ++ mkRidx (toIdx b) (off + sumLens a)
  | [], b, off => by simp [toIdx, mkRidx, sumLens]
  | x :: a, b, off => by
    have ih := mkRidx_append a b (off + x.len)
    simp only [toIdx, List.map_cons, List.cons_append, mkRidx, sumLens, List.map_append] at ih ⊢
    rw [ih]
    simp [Nat.add_assoc]

theorem mkGroups_flatten : ∀ (gs : List (List C10.Ext)) (off : Nat), (mkGroups gs off).flatten = mkRidx (toIdx gs.flatten) off
  | [], _ => by simp [mkGroups, toIdx, mkRidx]
  | g :: gs, off => by
    simp only [mkGroups, List.flatten_cons]
    rw [mkGroups_flatten gs, mkRidx_append]

theorem mkRidx_pairs : ∀ (l : List (Nat × Nat)) (off : Nat), (mkRidx l off).map (fun r => (r.tgt, r.compLen)) = l
  | [], _ => rfl
  | (n, sz) :: l, off => by rw [mkRidx, List.map_cons, mkRidx_pairs l]

theorem mkRidx_tgts (l : List (Nat × Nat)) (off : Nat) : (mkRidx l off).map (·.tgt) = l.map (·.1) := by
  have := congrArg (List.map Prod.fst) (mkRidx_pairs l off)
  rwa [List.map_map] at this

theorem mem_mkRidx_tgt (l : List (Nat × Nat)) (off k : Nat) : (∃ r ∈ mkRidx l off, r.tgt = k) ↔ ∃ p ∈ l, p.1 = k := by
  rw [← List.mem_map, ← List.mem_map, mkRidx_tgts]

theorem mem_mkRidx (g : List C10.Ext) (off : Nat) (r : RChunk) (h : r ∈ mkRidx (toIdx g) off) :
    ∃ x ∈ g, r.tgt = x.number ∧ r.compLen = x.len := by
  have := List.mem_map_of_mem (f := fun r => (r.tgt, r.compLen)) h
  rw [mkRidx_pairs, toIdx] at this
  obtain ⟨x, hx, he⟩ := List.mem_map.mp this
  exact ⟨x, hx, (congrArg Prod.fst he).symm, (congrArg Prod.snd he).symm⟩

theorem payloadOf_mkRidx (stored : Nat → Bytes) (g : List C10.Ext) (off : Nat) :
    payloadOf stored (mkRidx (toIdx g) off) = (g.map fun x => stored x.number).flatten := by
  have : ∀ l : List RChunk, payloadOf stored l = (l.map fun r => stored r.tgt).flatten := fun l => by
    induction l with
    | nil => rfl
    | cons r l ih => rw [payloadOf, ih]; rfl
  have h2 : (mkRidx (toIdx g) off).map (fun r => stored r.tgt) = ((mkRidx (toIdx g) off).map (·.tgt)).map stored := by
    rw [List.map_map]; rfl
  rw [this, h2, mkRidx_tgts, toIdx, List.map_map, List.map_map]
  rfl

theorem mkGroups_ne : ∀ (gs : List (List C10.Ext)) (off : Nat), (∀ g ∈ gs, g ≠ []) → ∀ g ∈ mkGroups gs off, g ≠ []
  | [], _, _, g, hg => by simp [mkGroups] at hg
  | g0 :: gs, off, h, g, hg => by
    simp only [mkGroups, List.mem_cons] at hg
    rcases hg with rfl | hg
    · have := h g0 (by simp)
      cases g0 with
      | nil => exact absurd rfl this
      | cons x r => simp [toIdx, mkRidx]
    · exact mkGroups_ne gs _ (fun g' hg' => h g' (List.mem_cons_of_mem _ hg')) g hg

theorem mkGroups_payload (stored : Nat → Bytes) : ∀ (gs : List (List C10.Ext)) (off : Nat),
    (mkGroups gs off).map (payloadOf stored) = gs.map fun g => (g.map fun x => stored x.number).flatten
  | [], _ => rfl
  | g :: gs, off => by
    simp only [mkGroups, List.map_cons]
    rw [payloadOf_mkRidx, mkGroups_payload stored gs]

end Zck.C04
