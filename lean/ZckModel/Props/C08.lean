/-
C08 — Local chunk reuse never accepts bytes that do not match the target index.
Theorems about the model of `zck_copy_chunks` / `write_and_verify_chunk` / `zck_find_matching_chunks`
(`Copy.lean`) for an arbitrary hash function.  The source is an argument the model cannot change
(that the real code does not write to it is checked by comparing the file before and after).
-/
import ZckModel.CopyLemmas

namespace Zck.C08
open Zck.Format Zck.Copy

theorem zeros_getD (n i : Nat) : (zeros n).getD i 0 = 0 := getD_zeros n i

theorem writeAndVerify_confined (H : HashFn) (srcF : Bytes) (src tgtH : Hdr) (t : Tgt) (k : Nat) (sc tc : Chunk)
    (hsz : sc.compLen = tc.compLen) (i : Nat)
    (hi : i < dataOff tgtH + tc.start ∨ dataOff tgtH + tc.start + tc.compLen ≤ i) :
    (writeAndVerify H srcF src tgtH t k sc tc).f.getD i 0 = t.f.getD i 0 :=
  (writeAndVerify_spec H srcF src tgtH t k sc tc).1 i (by rw [hsz, Nat.max_self]; exact hi)

/-- `write_and_verify_chunk` marks a chunk valid only after it has read the bytes back and hashed them.  That source and
target chunk have the same stored size and checksum is tested by the loop, not by the step (`used_only_if_equal`, the size
tests of `copyLoop`). -/
theorem writeAndVerify_valid (H : HashFn) (srcF : Bytes) (src tgtH : Hdr) (t : Tgt) (k : Nat) (sc tc : Chunk)
    (hk : k < t.valid.length) (hnot : t.valid.getD k 0 ≠ 1)
    (hv : (writeAndVerify H srcF src tgtH t k sc tc).valid.getD k 0 = 1) :
    ∃ data, data.length = sc.compLen ∧ H src.chunkHashType data = some sc.digest ∧
      (((writeAndVerify H srcF src tgtH t k sc tc).f.drop (dataOff tgtH + tc.start)).take data.length = data) := by
  rcases (writeAndVerify_spec H srcF src tgtH t k sc tc).2.2 with h | h | ⟨_, h⟩
  · rw [h] at hv; exact absurd hv hnot
  · rw [h, getD_set, if_pos ⟨rfl, hk⟩] at hv; exact absurd hv (by decide)
  · exact h

/-- the set of offsets a copy may write: extents of target chunks (from number `k` on) that are
not marked valid -/
def mayWrite (tgtH : Hdr) (valid : List Int) : List Chunk → Nat → Nat → Prop
  | [], _, _ => False
  | tc :: rest, k, i =>
    (valid.getD k 0 ≠ 1 ∧ dataOff tgtH + tc.start ≤ i ∧ i < dataOff tgtH + tc.start + tc.compLen) ∨
    mayWrite tgtH valid rest (k + 1) i

theorem mayWrite_of_mem (tgtH : Hdr) (valid : List Int) (i : Nat) : ∀ (cs : List Chunk) (k : Nat) (tc : Chunk) (n : Nat),
    (tc, n) ∈ cs.zipIdx k → valid.getD n 0 ≠ 1 → dataOff tgtH + tc.start ≤ i → i < dataOff tgtH + tc.start + tc.compLen →
    mayWrite tgtH valid cs k i
  | c :: cs, k, tc, n, hm, h1, h2, h3 => by
    rw [List.zipIdx_cons, List.mem_cons] at hm
    rcases hm with hm | hm
    · cases hm; exact Or.inl ⟨h1, h2, h3⟩
    · exact Or.inr (mayWrite_of_mem tgtH valid i cs (k + 1) tc n hm h1 h2 h3)

/-- C08, confinement: `zck_copy_chunks` changes no byte of the target outside the extents of the chunks that were not
marked valid before — in particular not the header and not a valid chunk -/
theorem copyLoop_confined (H : HashFn) (srcF : Bytes) (src tgtH : Hdr) :
    ∀ (cs : List Chunk) (k : Nat) (t : Tgt) (i : Nat), ¬ mayWrite tgtH t.valid cs k i →
      (copyLoop H srcF src tgtH cs k t).f.getD i 0 = t.f.getD i 0 := by
  intro cs k t i hno
  -- invariant: byte `i` is as at the start, and so is every mark that was 1
  refine (copyLoop_induct H srcF src tgtH (fun t' => t'.f.getD i 0 = t.f.getD i 0 ∧ ∀ j, t.valid.getD j 0 = 1 → t'.valid.getD j 0 = 1)
    cs k t ?_ ⟨rfl, fun _ h => h⟩).1
  intro tc n sc t' hm hnv _ _ hsz ⟨hf, hv⟩
  have hn0 : t.valid.getD n 0 ≠ 1 := fun h => hnv (hv n h)
  refine ⟨?_, fun j hj => ?_⟩
  · rw [writeAndVerify_confined H srcF src tgtH t' n sc tc hsz i, hf]
    by_cases h2 : dataOff tgtH + tc.start ≤ i
    · exact Or.inr (Nat.le_of_not_lt fun h3 => hno (mayWrite_of_mem tgtH t.valid i cs k tc n hm hn0 h2 h3))
    · exact Or.inl (Nat.lt_of_not_le h2)
  · rw [writeAndVerify_getD_ne H srcF src tgtH t' n sc tc j (fun h => hn0 (h ▸ hj))]; exact hv j hj

theorem copy_confined (H : HashFn) (srcF : Bytes) (src tgtH : Hdr) (t : Tgt) (i : Nat)
    (hno : ¬ mayWrite tgtH t.valid tgtH.chunks 0 i) :
    (copyChunks H srcF src tgtH t).f.getD i 0 = t.f.getD i 0 :=
  copyLoop_confined H srcF src tgtH tgtH.chunks 0 t i hno

/-- the copy is further guarded by the loop's two size tests (stored and uncompressed size), which `copyLoop_induct` hands
to every step -/
theorem used_only_if_equal (src : Hdr) (tc sc : Chunk) (h : findSrc src tc.digest = some sc) :
    sc.digest = tc.digest ∧ sc ∈ src.chunks := by
  unfold findSrc at h
  have h1 := List.find?_some h
  exact ⟨by simpa using h1, List.mem_of_find?_eq_some h⟩

/-- `zck_find_matching_chunks` pairs only chunks with equal checksum (stored, or uncompressed when the compression differs) and length -/
theorem matching_sound (src tgt : Hdr) (valid : List Int) (k : Nat) (tc : Chunk) (v : Int) (s : Nat)
    (hk : tgt.chunks.zipIdx[k]? = some (tc, k))
    (h : (findMatching src tgt valid)[k]? = some (v, some s)) :
    v = 1 ∧ ∃ sc ∈ src.chunks, sc.number = s ∧ sc.len = tc.len ∧
      ((src.compType = tgt.compType ∧ sc.digest = tc.digest) ∨
       (src.compType ≠ tgt.compType ∧ sc.udigest = tc.udigest ∧ sc.udigest.isSome)) := by
  unfold findMatching at h
  rw [List.getElem?_map, hk] at h
  replace h := Option.some.inj h
  dsimp only at h
  by_cases hv : valid.getD k 0 ≠ 0
  · rw [if_pos hv] at h; cases h
  rw [if_neg hv] at h
  -- the chunk found, whichever checksum it was looked up by
  generalize hf : (if src.compType = tgt.compType then src.chunks.find? (fun c => c.digest == tc.digest)
      else if src.flags / 4 % 2 = 1 ∧ tgt.flags / 4 % 2 = 1 then
        src.chunks.find? (fun c => c.udigest == tc.udigest ∧ c.udigest.isSome)
      else none) = f at h
  cases f with
  | none => simp at h
  | some sc =>
    have hsc : sc ∈ src.chunks ∧ ((src.compType = tgt.compType ∧ sc.digest = tc.digest) ∨
        (src.compType ≠ tgt.compType ∧ sc.udigest = tc.udigest ∧ sc.udigest.isSome)) := by
      by_cases hc : src.compType = tgt.compType
      · rw [if_pos hc] at hf
        exact ⟨List.mem_of_find?_eq_some hf, Or.inl ⟨hc, by simpa using List.find?_some hf⟩⟩
      · rw [if_neg hc] at hf
        split at hf
        · have hp := List.find?_some hf
          simp only [decide_eq_true_eq, beq_iff_eq] at hp
          exact ⟨List.mem_of_find?_eq_some hf, Or.inr ⟨hc, hp.1, hp.2⟩⟩
        · cases hf
    simp only at h
    split at h
    · rename_i hl
      simp only [Prod.mk.injEq, Option.some.injEq] at h
      exact ⟨h.1.symm, sc, hsc.1, h.2, hl, hsc.2⟩
    · simp at h
end Zck.C08
