/-
C05 — completeness of the multipart path: a multipart/byteranges body whose parts carry, in request order, the stored bytes of
consecutive groups of the requested chunks (one part per coalesced range), each part header well formed for the pattern, makes
every requested chunk valid and changes no other mark.  The framing is transparent (`multipart_whole`), so what remains is the
induction of `C05Complete.lean` once per part (`req_piece`); fragmentation independence of the multipart path then gives the same
under every fragmentation, also from the context the header callback leaves, the patterns not compiled yet.
-/
import ZckModel.Props.C05Complete
import ZckModel.Props.C05Multipart

namespace Zck.C05
open Zck.Dl

/-- one `req_piece` per part -/
theorem req_parts (e : Env) (stored : Nat → Bytes) : ∀ (gs : List (List RChunk)) (ps : List Part) (pre : List RChunk)
    (rc : RChunk) (rest : List RChunk) (st : St),
    ps.map (·.payload) = ((rc :: rest) :: gs).map (payloadOf stored) → (∀ g ∈ gs, g ≠ []) →
    Req e stored st pre rc (rest ++ gs.flatten) →
    Taken e st ps ∧ (∀ r ∈ ((rc :: rest) :: gs).flatten, (dwrParts e st ps).valid.getD r.tgt 0 = 1) ∧
    (∀ k, (∀ r ∈ ((rc :: rest) :: gs).flatten, r.tgt ≠ k) → (dwrParts e st ps).valid.getD k 0 = st.valid.getD k 0) ∧
    (dwrParts e st ps).valid.length = st.valid.length
  | [], ps, pre, rc, rest, st, hpay, _, h => by
    obtain ⟨p, rfl, hq⟩ := List.map_eq_singleton_iff.mp hpay
    simp only [List.flatten_cons, List.flatten_nil, List.append_nil] at h ⊢
    have hp := req_piece e stored rest pre [] rc st (2 * p.payload.length + 2) (by rw [List.append_nil]; exact h) (by rw [hq]; omega)
    rw [← hq] at hp
    exact ⟨⟨hp.1, trivial⟩, hp.2.1, hp.2.2.2.1, hp.2.2.2.2.1⟩
  | (m :: ms) :: gs, p :: ps', pre, rc, rest, st, hpay, hgne, h => by
    simp only [List.map_cons, List.cons.injEq] at hpay
    have hp := req_piece e stored rest pre (m :: (ms ++ gs.flatten)) rc st (2 * p.payload.length + 2)
      (by simpa using h) (by rw [hpay.1]; omega)
    rw [← hpay.1] at hp
    obtain ⟨i1, i2, _, i4, i5, i6⟩ := hp
    generalize hout : dlWriteRange e (2 * p.payload.length + 2) st p.payload = out at i1 i2 i4 i5 i6
    obtain ⟨j1, j2, j3, j4⟩ := req_parts e stored gs ps' (pre ++ rc :: rest) m ms out.2 (by simpa using hpay.2)
      (fun g hg => hgne g (List.mem_cons_of_mem _ hg)) (i6 m _ rfl)
    simp only [Taken, dwrParts, hout]
    have hfl : ((rc :: rest) :: (m :: ms) :: gs).flatten = (rc :: rest) ++ ((m :: ms) :: gs).flatten := by simp
    refine ⟨⟨i1, j1⟩, fun r hr => ?_, fun k hk => ?_, by rw [j4, i5]⟩
    · rcases List.mem_append.mp (hfl ▸ hr) with h1 | h1
      · by_cases hin : ∃ r' ∈ ((m :: ms) :: gs).flatten, r'.tgt = r.tgt
        · obtain ⟨r', hr', heq⟩ := hin
          rw [← heq]; exact j2 r' hr'
        · rw [j3 r.tgt (fun r' hr' heq => hin ⟨r', hr', heq⟩)]; exact i2 r h1
      · exact j2 r h1
    · rw [hfl] at hk
      rw [j3 k (fun r hr => hk r (List.mem_append_right _ hr)), i4 k (fun r hr => hk r (List.mem_append_left _ hr))]
  | [] :: _, _, _, _, _, _, _, hgne, _ => absurd rfl (hgne [] List.mem_cons_self)
  | (_ :: _) :: _, [], _, _, _, _, hpay, _, _ => by simp at hpay

/-- the parts one after the other, the first chunk of the first group open: every payload is taken completely, every chunk of every
group ends up valid, no other mark changes -/
theorem parts_complete (e : Env) (stored : Nat → Bytes) : ∀ (gs : List (List RChunk)) (ps : List Part) (pre : List RChunk)
    (rc : RChunk) (rest : List RChunk) (st : St),
    ps.map (·.payload) = ((rc :: rest) :: gs).map (payloadOf stored) → (∀ g ∈ gs, g ≠ []) →
    e.ridx = pre ++ ((rc :: rest) :: gs).flatten → RunIdx rc.start (((rc :: rest) :: gs).flatten) →
    (∀ r ∈ ((rc :: rest) :: gs).flatten, EntryOk e stored r ∧ r.tgt < st.valid.length) →
    (∀ r ∈ rest ++ gs.flatten, st.valid.getD r.tgt 0 ≠ 1) → ((((rc :: rest) :: gs).flatten).map (·.tgt)).Nodup →
    (∀ r ∈ pre, r.start < rc.start) → OpenAt e st pre rc →
    Taken e st ps ∧ (∀ r ∈ ((rc :: rest) :: gs).flatten, (dwrParts e st ps).valid.getD r.tgt 0 = 1) ∧
    (∀ k, (∀ r ∈ ((rc :: rest) :: gs).flatten, r.tgt ≠ k) → (dwrParts e st ps).valid.getD k 0 = st.valid.getD k 0) ∧
    (dwrParts e st ps).valid.length = st.valid.length := by
  intro gs ps pre rc rest st hpay hgne hridx hrun hent hnv hnd hpre ho
  have hfl : ((rc :: rest) :: gs).flatten = rc :: (rest ++ gs.flatten) := by simp
  exact hfl ▸ req_parts e stored gs ps pre rc rest st hpay hgne ⟨hridx, hrun, hent, hnv, hnd, hpre, ho⟩

theorem multipart_taken (e : Env) (stored : Nat → Bytes) (st : St) (pp : Bytes) (ps : List Part) (gs : List (List RChunk))
    (hf : Fresh st)
    (hpay : ps.map (·.payload) = gs.map (payloadOf stored)) (hgne : ∀ g ∈ gs, g ≠ []) (hne : gs ≠ [])
    (hridx : e.ridx = gs.flatten) (hrun : RunIdx 0 e.ridx)
    (hent : ∀ r ∈ e.ridx, EntryOk e stored r ∧ r.tgt < st.valid.length ∧ st.valid.getD r.tgt 0 ≠ 1)
    (hnd : (e.ridx.map (·.tgt)).Nodup) (hok : ∀ p ∈ ps, PartOk e.rx pp p) :
    ps ≠ [] ∧ Taken e st ps ∧ (∀ r ∈ e.ridx, (dwrParts e st ps).valid.getD r.tgt 0 = 1) ∧
    (∀ k, (∀ r ∈ e.ridx, r.tgt ≠ k) → (dwrParts e st ps).valid.getD k 0 = st.valid.getD k 0) := by
  match gs, ps, hne, hgne, hpay with
  | [] :: _, _, _, hgne, _ => exact absurd rfl (hgne [] List.mem_cons_self)
  | (rc :: rest) :: gs', p :: ps', _, hgne, hpay =>
    have hfl : ((rc :: rest) :: gs').flatten = rc :: (rest ++ gs'.flatten) := by simp
    have hpne : p.payload ≠ [] := (hok p List.mem_cons_self).nonempty
    obtain ⟨tc, hreq, hfirst⟩ := dwr_fresh_req e stored st hf rc (rest ++ gs'.flatten) (by rw [hridx, hfl]) hrun hent hnd
      p.payload hpne (2 * p.payload.length + 1)
    -- `Taken` and `dwrParts` give every call the same fuel
    have hw : 0 < (opened e st rc tc).writeInChunk := hreq.run.2.1
    have hfirst : dlWriteRange e (2 * p.payload.length + 2) st p.payload =
        dlWriteRange e (2 * p.payload.length + 2) (opened e st rc tc) p.payload :=
      hfirst.trans (dwr_fuel e _ _ _ _ (by rw [dneed_open _ _ hw]; exact Nat.le_refl _) (by rw [dneed_open _ _ hw]; exact Nat.le_succ _))
    have hpc := req_parts e stored gs' (p :: ps') [] rc rest (opened e st rc tc) hpay
      (fun g hg => hgne g (List.mem_cons_of_mem _ hg)) hreq
    simp only [Taken, dwrParts] at hpc ⊢
    rw [← hfirst, ← hridx] at hpc
    exact ⟨by simp, hpc.1, hpc.2.1, hpc.2.2.1⟩

/-- C05 (completeness, multipart path, one call): a fresh download context that has learnt the boundary, a request whose entries
match the index and are not yet valid, and a multipart body whose parts carry, in request order, the server's stored bytes of
consecutive groups of the requested chunks, every part header well formed for the part pattern, then a trailer (the closing
delimiter) without a part header: `multipart_extract` accepts the body, every requested chunk ends up marked valid, no other mark
changes -/
theorem multipart_complete (e : Env) (stored : Nat → Bytes) (st : St) (pp : Bytes) (ps : List Part) (gs : List (List RChunk))
    (trailer : Bytes) (hf : Fresh st) (hmp : st.mp = {}) (hrx : st.dlRx = .ok pp)
    (hpay : ps.map (·.payload) = gs.map (payloadOf stored)) (hgne : ∀ g ∈ gs, g ≠ []) (hne : gs ≠ [])
    (hridx : e.ridx = gs.flatten) (hrun : RunIdx 0 e.ridx)
    (hent : ∀ r ∈ e.ridx, EntryOk e stored r ∧ r.tgt < st.valid.length ∧ st.valid.getD r.tgt 0 ≠ 1)
    (hnd : (e.ridx.map (·.tgt)).Nodup) (hok : ∀ p ∈ ps, PartOk e.rx pp p) (htr : NoHeader trailer) :
    let out := mpExtract e st (partsBytes ps ++ trailer)
    out.1 = true ∧ (∀ r ∈ e.ridx, out.2.valid.getD r.tgt 0 = 1) ∧
    (∀ k, (∀ r ∈ e.ridx, r.tgt ≠ k) → out.2.valid.getD k 0 = st.valid.getD k 0) := by
  obtain ⟨hpne, k1, k2, k3⟩ := multipart_taken e stored st pp ps gs hf hpay hgne hne hridx hrun hent hnd hok
  intro out
  have hw : mpExtract e st (partsBytes ps ++ trailer) = (true, withBuf (dwrParts e st ps) trailer) :=
    multipart_whole e st pp ps trailer hf.err hmp hrx hpne hok htr k1
  have hout : out = mpExtract e st (partsBytes ps ++ trailer) := rfl
  rw [hout, hw]
  exact ⟨rfl, fun r hr => by rw [withBuf_valid]; exact k2 r hr, fun k hk => by rw [withBuf_valid]; exact k3 k hk⟩

/-- C05 (completeness + verification + confinement, multipart path, one call): under the hypotheses of `multipart_complete`, for a
header with non-overlapping extents (`disj_of_open`: every parsed header), every requested extent lies inside the target and holds
the server's bytes (or a collision of the hash is exhibited), and every byte outside the requested extents is what it was -/
theorem multipart_complete_bytes (e : Env) (hd : Disj e) (stored : Nat → Bytes) (st : St) (pp : Bytes) (ps : List Part)
    (gs : List (List RChunk)) (trailer : Bytes) (hf : Fresh st) (hmp : st.mp = {}) (hrx : st.dlRx = .ok pp)
    (hpay : ps.map (·.payload) = gs.map (payloadOf stored)) (hgne : ∀ g ∈ gs, g ≠ []) (hne : gs ≠ [])
    (hridx : e.ridx = gs.flatten) (hrun : RunIdx 0 e.ridx)
    (hent : ∀ r ∈ e.ridx, EntryOk e stored r ∧ r.tgt < st.valid.length ∧ st.valid.getD r.tgt 0 ≠ 1)
    (hnd : (e.ridx.map (·.tgt)).Nodup) (hok : ∀ p ∈ ps, PartOk e.rx pp p) (htr : NoHeader trailer) :
    let out := mpExtract e st (partsBytes ps ++ trailer)
    (∀ r ∈ e.ridx, ∃ tc, e.hdr.chunks[r.tgt]? = some tc ∧ ChunkOk e out.2.file tc ∧
      (((out.2.file.drop (e.dataOff + tc.start)).take tc.compLen = stored r.tgt) ∨ Collision e.H e.hdr.chunkHashType)) ∧
    (∀ i, Outside e st.valid i → out.2.file.getD i 0 = st.file.getD i 0) := by
  intro out
  have hc := multipart_complete e stored st pp ps gs trailer hf hmp hrx hpay hgne hne hridx hrun hent hnd hok htr
  have hgv : GV e st.file st.valid out.2 :=
    pres_mpExtract e (gv_preserved e hd st.file st.valid) st _ (gv_init e st hf.tgt hf.wic)
  exact ⟨fun r hr => stored_or_collision e stored st.file st.valid out.2 hgv r hr (hent r hr).1 (hent r hr).2.2
    (runIdx_pos _ _ hrun r hr) (hc.2.1 r hr), hgv.1.file⟩

theorem setDl_valid (n : Nat) (s : St) : (setDl n s).valid = s.valid := rfl
theorem setDl_file (n : Nat) (s : St) : (setDl n s).file = s.file := rfl

theorem feed_one_mp (e : Env) (stop clear : Bool) (st : St) (b : Bytes) (hbd : st.boundary.isSome) (hok : (mpExtract e st b).1 = true) :
    feed e stop clear st [b] [] = ([b.length], setDl (st.dlBytes + b.length) (mpExtract e st b).2) := by
  unfold feed
  rw [writeChunkCb_mp e st b hbd, hok]
  simp [feed]

/-- C05 (the multipart path, every fragmentation): under the hypotheses of `multipart_complete` and `multipart_complete_bytes`, the
body handed to `zck_write_chunk_cb` in any sequence of non-empty fragments: every call is accepted, and the marks and the target
end as stated there -/
theorem multipart_complete_frags (e : Env) (hd : Disj e) (stored : Nat → Bytes) (st : St) (pp : Bytes) (ps : List Part)
    (gs : List (List RChunk)) (trailer : Bytes) (fs : List Bytes) (stop clear : Bool)
    (hf : Fresh st) (hmp : st.mp = {}) (hrx : st.dlRx = .ok pp) (hbd : st.boundary.isSome)
    (hpay : ps.map (·.payload) = gs.map (payloadOf stored)) (hgne : ∀ g ∈ gs, g ≠ []) (hne : gs ≠ [])
    (hridx : e.ridx = gs.flatten) (hrun : RunIdx 0 e.ridx)
    (hent : ∀ r ∈ e.ridx, EntryOk e stored r ∧ r.tgt < st.valid.length ∧ st.valid.getD r.tgt 0 ≠ 1)
    (hnd : (e.ridx.map (·.tgt)).Nodup) (hok : ∀ p ∈ ps, PartOk e.rx pp p) (htr : NoHeader trailer)
    (hfs : ∀ f ∈ fs, f ≠ []) (hcat : fs.flatten = partsBytes ps ++ trailer) :
    let out := feed e stop clear st fs []
    out.1 = fs.map List.length ∧ (∀ r ∈ e.ridx, out.2.valid.getD r.tgt 0 = 1) ∧
    (∀ k, (∀ r ∈ e.ridx, r.tgt ≠ k) → out.2.valid.getD k 0 = st.valid.getD k 0) ∧
    (∀ r ∈ e.ridx, ∃ tc, e.hdr.chunks[r.tgt]? = some tc ∧ ChunkOk e out.2.file tc ∧
      (((out.2.file.drop (e.dataOff + tc.start)).take tc.compLen = stored r.tgt) ∨ Collision e.H e.hdr.chunkHashType)) ∧
    (∀ i, Outside e st.valid i → out.2.file.getD i 0 = st.file.getD i 0) := by
  intro out
  obtain ⟨hpne, k1, _, _⟩ := multipart_taken e stored st pp ps gs hf hpay hgne hne hridx hrun hent hnd hok
  have hi : HashInv st := fun h => by rw [hf.wic] at h; omega
  have hfi := multipart_feed_indep e st pp ps trailer fs stop clear hf.err hmp hrx hi hbd hpne hok htr k1 hfs hcat
  have hc := multipart_complete e stored st pp ps gs trailer hf hmp hrx hpay hgne hne hridx hrun hent hnd hok htr
  have hcb := multipart_complete_bytes e hd stored st pp ps gs trailer hf hmp hrx hpay hgne hne hridx hrun hent hnd hok htr
  have hs := feed_one_mp e stop clear st (partsBytes ps ++ trailer) hbd hc.1
  have hout : out.2 = setDl (st.dlBytes + (partsBytes ps ++ trailer).length) (mpExtract e st (partsBytes ps ++ trailer)).2 := by
    rw [hfi.2.1, hs]
  refine ⟨hfi.1, ?_, ?_, ?_, ?_⟩
  · intro r hr; rw [hout, setDl_valid]; exact hc.2.1 r hr
  · intro k hk; rw [hout, setDl_valid]; exact hc.2.2 k hk
  · intro r hr; rw [hout, setDl_file]; exact hcb.1 r hr
  · intro i hi'; rw [hout, setDl_file]; exact hcb.2 i hi'

/-- C05 (the multipart path from the first body byte, every fragmentation): as `multipart_complete_frags`, for the context as the
header callback leaves it — boundary known, patterns not yet compiled — when `regcomp` accepts the two patterns built from the
boundary: the first callback compiles them and everything goes as stated there -/
theorem multipart_complete_frags_null (e : Env) (hd : Disj e) (stored : Nat → Bytes) (st : St) (ps : List Part)
    (gs : List (List RChunk)) (trailer : Bytes) (fs : List Bytes) (stop clear : Bool)
    (hf : Fresh st) (hmp : st.mp = {}) (hn : st.dlRx = .null) (hbd : st.boundary.isSome)
    (h1 : e.rx.comp (partPattern (st.boundary.getD [])) = true) (h2 : e.rx.comp (endPattern (st.boundary.getD [])) = true)
    (hpay : ps.map (·.payload) = gs.map (payloadOf stored)) (hgne : ∀ g ∈ gs, g ≠ []) (hne : gs ≠ [])
    (hridx : e.ridx = gs.flatten) (hrun : RunIdx 0 e.ridx)
    (hent : ∀ r ∈ e.ridx, EntryOk e stored r ∧ r.tgt < st.valid.length ∧ st.valid.getD r.tgt 0 ≠ 1)
    (hnd : (e.ridx.map (·.tgt)).Nodup) (hok : ∀ p ∈ ps, PartOk e.rx (partPattern (st.boundary.getD [])) p) (htr : NoHeader trailer)
    (hfs : ∀ f ∈ fs, f ≠ []) (hcat : fs.flatten = partsBytes ps ++ trailer) :
    let out := feed e stop clear st fs []
    out.1 = fs.map List.length ∧ (∀ r ∈ e.ridx, out.2.valid.getD r.tgt 0 = 1) ∧
    (∀ k, (∀ r ∈ e.ridx, r.tgt ≠ k) → out.2.valid.getD k 0 = st.valid.getD k 0) ∧
    (∀ r ∈ e.ridx, ∃ tc, e.hdr.chunks[r.tgt]? = some tc ∧ ChunkOk e out.2.file tc ∧
      (((out.2.file.drop (e.dataOff + tc.start)).take tc.compLen = stored r.tgt) ∨ Collision e.H e.hdr.chunkHashType)) ∧
    (∀ i, Outside e st.valid i → out.2.file.getD i 0 = st.file.getD i 0) := by
  have hfeed : feed e stop clear st fs [] = feed e stop clear (compiled st) fs [] := by
    cases fs with
    | nil =>
      obtain ⟨hpne, _⟩ := multipart_taken e stored st _ ps gs hf hpay hgne hne hridx hrun hent hnd hok
      exact absurd hcat.symm (partsBytes_ne_nil ps trailer hpne)
    | cons f fs' =>
      unfold feed
      rw [writeChunkCb_compile e st f hf.err hn hbd h1 h2]
  intro out
  have hout : out = feed e stop clear (compiled st) fs [] := hfeed
  rw [hout]
  exact multipart_complete_frags e hd stored (compiled st) _ ps gs trailer fs stop clear
    ⟨hf.err, hf.wic, hf.tgt, hf.cn, hf.dcd⟩ hmp rfl hbd hpay hgne hne hridx hrun hent hnd hok htr hfs hcat

/-- non-vacuity: the hypotheses of `multipart_complete` hold of the two-part toy body of `C05Multipart` (request: chunks
1 and 2 in two ranges, the server's bytes `[1,2,3]` and `[4,5]`) -/
example : let stored : Nat → Bytes := fun k => if k = 1 then [1, 2, 3] else [4, 5]
    let gs : List (List RChunk) := [[⟨0, 3, 1⟩], [⟨3, 2, 2⟩]]
    Fresh mpSt ∧ mpSt.mp = {} ∧ mpSt.dlRx = .ok [] ∧
    [part1, part2].map (·.payload) = gs.map (payloadOf stored) ∧ (∀ g ∈ gs, g ≠ []) ∧ gs ≠ [] ∧
    mpEnv.ridx = gs.flatten ∧ RunIdx 0 mpEnv.ridx ∧
    (∀ r ∈ mpEnv.ridx, EntryOk mpEnv stored r ∧ r.tgt < mpSt.valid.length ∧ mpSt.valid.getD r.tgt 0 ≠ 1) ∧
    (mpEnv.ridx.map (·.tgt)).Nodup ∧ (∀ p ∈ [part1, part2], PartOk mpEnv.rx [] p) ∧ NoHeader [13, 10, 45, 45] := by
  intro stored gs
  refine ⟨⟨rfl, rfl, rfl, rfl, rfl⟩, rfl, rfl, by decide, by decide, by decide, by decide,
    runIdx_mkRidx [(1, 3), (2, 2)] 0 (by decide), ?_, by decide, ?_, fun j r => (nofun : Sum.inl j ≠ Sum.inr r)⟩
  · intro r hr
    rcases List.mem_cons.1 hr with rfl | hr
    · exact ⟨⟨⟨1, [6], none, 3, 3, 0⟩, by decide, rfl, rfl, by decide⟩, by decide, by decide⟩
    · exact List.mem_singleton.1 hr ▸ ⟨⟨⟨2, [9], none, 2, 2, 3⟩, by decide, rfl, rfl, by decide⟩, by decide, by decide⟩
  · intro p hp
    rcases List.mem_cons.1 hp with rfl | hp
    · exact part1_ok
    · exact List.mem_singleton.1 hp ▸ part2_ok

end Zck.C05
