/-
C01 — the tools, end to end on the models: `zck` (scanner → chunker → `zck_close`) followed by `unzck` (open, validations, the
read loop with a fixed buffer, `zck_close`) gives back the input file, for every input, split string, read-block cutting,
legal configuration, buffer size and backend whose decompressor inverts its compressor.  `unzck`'s loop ends because what has been
handed out is always a prefix of the content (`P.prefix`) and every read but the last delivers at least one byte.  Not modelled:
option parsing, file names, `write(2)` of the output (C12 covers its failure reporting).
-/
import ZckModel.Props.C01Scanner
import ZckModel.Props.C01Close
import ZckModel.Props.C09Reads

namespace Zck.Stream
open Zck.Format Zck.Reader

section
variable {H : HashFn} {D : Decomp} {f : Bytes} {h : Hdr}

/-- the read loop of `main` in src/unzck.c (`while(true) { read_size = zck_read(zck, data, BUF_SIZE); ... }`): `zck_read` with a
fixed buffer of `n` bytes until it returns 0; `none` = a read failed or the fuel ran out.  A hand-written model: the driver does not
run it, the tool is compared with it only through the tools' round trip on the generated inputs. -/
def unzckLoop (H : HashFn) (D : Decomp) (f : Bytes) (n : Nat) : Nat → Ctx → Bytes → Option (Bytes × Ctx)
  | 0, _, _ => none
  | fuel + 1, c, acc =>
    if (compRead H D f c n).1.ret < 0 then none
    else if (compRead H D f c n).1.ret = 0 then some (acc, (compRead H D f c n).2)
    else unzckLoop H D f n fuel (compRead H D f c n).2 (acc ++ (compRead H D f c n).1.bytes)

/-- on a well-formed file the loop ends after at most `content length + 1` reads, has collected exactly the content, and
`zck_close` succeeds -/
theorem unzckLoop_total (wf : WF H D f h) (n : Nat) (hn : 0 < n) : ∀ (fuel : Nat) (c : Ctx) (acc : Bytes),
    P (H := H) (D := D) (f := f) (h := h) acc c →
    (doneFrom D f h 1 (h.chunks.drop 1)).length - acc.length + 1 ≤ fuel →
    ∃ cE, unzckLoop H D f n fuel c acc = some (doneFrom D f h 1 (h.chunks.drop 1), cE) ∧ close H cE = true
  | 0, _, _, _, hf => absurd hf (Nat.not_succ_le_zero _)
  | fuel + 1, c, acc, hp, hf => by
    have hg := (compRead_prog wf acc c n hp).1
    rw [unzckLoop, if_neg (Int.not_lt.mpr hg)]
    rcases compRead_P (H := H) wf.run acc c n hp with hneg | ⟨hret, hp2, hsh⟩
    · exact absurd hneg (Int.not_lt.mpr hg)
    · by_cases h0 : (compRead H D f c n).1.ret = 0
      · -- a read of 0 bytes is short: the stream is at its end and all of it has been handed out
        rw [if_pos h0]
        have hb0 : (compRead H D f c n).1.bytes.length = 0 := Int.ofNat.inj (hret.symm.trans h0)
        obtain ⟨hpost, hdc, hend⟩ := hsh (hb0 ▸ hn)
        have hdec := (post_end hpost hdc hend).1.content
        rw [List.eq_nil_of_length_eq_zero hb0, List.append_nil] at hdec hpost
        exact ⟨_, by rw [hdec], close_at_end wf hpost hend⟩
      · -- otherwise at least one byte was delivered, and what is handed out stays within the content
        rw [if_neg h0]
        have hpos : 0 < (compRead H D f c n).1.bytes.length :=
          Int.natCast_pos.mp (hret ▸ Int.lt_iff_le_and_ne.mpr ⟨hg, Ne.symm h0⟩)
        have hl := (P.prefix wf hp2).length_le
        rw [List.length_append] at hl
        refine unzckLoop_total wf n hn fuel _ _ hp2 ?_
        rw [List.length_append]
        omega

end
end Zck.Stream

namespace Zck.ToolsP
open Zck.Format Zck.Reader Zck.Encode Zck.Header Zck.Stream Zck.Writer Zck.Tools Zck.EncP

/-- C01, the tools end to end.  `zck -s split` on an input delivered in `blocks`, under any legal configuration: the calls
complete with some chunks; for the file `zck_close` writes for them (any backend whose decompressor inverts its compressor) the
parser model opens it and `unzck`'s loop — after any validations, with any buffer size — collects exactly the input within
input-length + 1 reads, and `zck_close` succeeds. -/
theorem zck_unzck_roundtrip (H : Format.HashFn) (D : Decomp) (cfg : Cfg) (hl : Legal cfg.norm) (hW : cfg.W = 48) (hb : cfg.bits = 15)
    (split : Bytes) (blocks : List Bytes)
    (C : Option Bytes → Bytes → Bytes) (ht cht ct ds cs : Nat) (u : Bool) (dict : Bytes)
    (hct : ct = 0 ∨ ct = 2) (hC : ct ≠ 0 → ∀ d p, p ≠ [] → D (C d p) d = some p ∧ C d p ≠ [])
    (hds : hsize ht = some ds) (hcs : hsize cht = some cs) (hH : HashLen H) :
    ∃ chunks, closeChunks cfg (zckOps split blocks) = some chunks ∧
      ∀ f, closeFile H C ht cht ct u dict chunks = some f →
        (∀ p ∈ dict :: chunks, p.length < allocLimit) → f.length < 2^63 →
        (∀ ents dd, (storedPairs C ct dict chunks).mapM (fun (x : Bytes × Bytes × Bytes) => entryOf H cht u x.1 x.2.1 x.2.2) = some ents →
          (encIndex ⟨ht, cht, if u then 4 else 0, ct, dd, ents⟩).length < 2^31) →
        ∃ h, openFile H f = .ok h ∧
          ∀ (vs : List Val) (n : Nat), 0 < n →
            ∃ cE, unzckLoop H D f n (blocks.flatten.length + 1) (validations H f (openCtx h) vs) [] = some (blocks.flatten, cE) ∧
              close H cE = true := by
  obtain ⟨chunks, hclose, hflat⟩ := zck_tool_chunks cfg hl hW hb split blocks
  refine ⟨chunks, hclose, fun f hf hsmall hlen hidx => ?_⟩
  have hne := Writer.closeChunks_nonempty cfg _ chunks hclose
  obtain ⟨h, hopen, wf, hc⟩ := closeFile_wf H D C ht cht ct ds cs u dict chunks f hf hct hC hds hcs hH hne hsmall hlen hidx
  refine ⟨h, hopen, fun vs n hn => ?_⟩
  have hp : P (H := H) (D := D) (f := f) (h := h) [] (validations H f (openCtx h) vs) :=
    fresh_P (validations_fresh vs _ fresh_open)
  have := unzckLoop_total wf n hn (blocks.flatten.length + 1) _ [] hp (by rw [hc, hflat]; exact Nat.le_refl _)
  rw [hc, hflat] at this
  exact this

/-! non-vacuity (test): the hypotheses are met by the default configuration, the "none" backend and the example checksum
function; for the input `[1,2,3] ++ [9,8]` read in two blocks the chunker model closes the single chunk `[1,2,3,9,8]` -/
example : ∃ chunks, closeChunks { manual := false, chunkMin := 0, chunkMax := 0 } (zckOps [] [[1, 2, 3], [9, 8]]) = some chunks := by
  obtain ⟨chunks, h, _⟩ := zck_unzck_roundtrip exH exD { manual := false, chunkMin := 0, chunkMax := 0 } ⟨by decide, by decide⟩ rfl rfl [] [[1, 2, 3], [9, 8]]
    (fun _ p => p) 3 3 0 16 16 false [] (Or.inl rfl) (fun h => absurd rfl h) rfl rfl exH_len
  exact ⟨chunks, h⟩

example : closeChunks { manual := false, chunkMin := 0, chunkMax := 0 } (zckOps [] [[1, 2, 3], [9, 8]]) = some [[1, 2, 3, 9, 8]] := by
  decide +kernel

end Zck.ToolsP
