/-
C04 / C11 — "nothing already present is fetched again": `reqOf_spec` says what `zck_get_missing_range` asks for on the index the
update model passes, for any marks and limit (C10's `missing_spec`: the specified request for extents that are chunks of the
index marked missing, with stored bytes, each once); so the request of every round contains only chunks whose mark is 0
(`request_only_missing`; `req_ready` in C04Complete is the same request seen as groups), a valid mark survives the copy
step, the reset and every round, so a chunk found present by the scan is never requested (`present_not_requested`,
`valid_not_requested`).  With C09's `find_valid_exact` the scan's mark 1 means exactly "present on disk".
-/
import ZckModel.Props.C04Sound
import ZckModel.Props.C10

namespace Zck.C04
open Zck.Format Zck.Copy Zck.Update

/-- in a running index the number of a chunk is its position: `zck_get_missing_range` sees each chunk with its own mark -/
theorem rchunks_run (valid : List Int) : ∀ (cs : List Chunk) (n s : Nat), C13.RunFrom n s cs →
    ((cs.zipIdx n).map fun (c, k) => (⟨c.number, c.start, c.compLen, valid.getD k 0⟩ : Range.Chunk)) =
      cs.map fun c => ⟨c.number, c.start, c.compLen, valid.getD c.number 0⟩
  | [], _, _, _ => rfl
  | c :: rest, n, s, h => by
    rw [List.zipIdx_cons, List.map_cons, List.map_cons, rchunks_run valid rest (n + 1) (s + c.compLen) h.2.2]
    simp only [h.1]

theorem runSum_of_runFrom (valid : List Int) : ∀ (cs : List Chunk) (n s : Nat), C13.RunFrom n s cs →
    C10.RunSum s (cs.map fun c => (⟨c.number, c.start, c.compLen, valid.getD c.number 0⟩ : Range.Chunk)) ∧
    C10.total (cs.map fun c => (⟨c.number, c.start, c.compLen, valid.getD c.number 0⟩ : Range.Chunk)) = C13.sumLen cs
  | [], _, _, _ => ⟨trivial, rfl⟩
  | c :: rest, n, s, h => by
    obtain ⟨i1, i2⟩ := runSum_of_runFrom valid rest (n + 1) (s + c.compLen) h.2.2
    exact ⟨⟨h.2.1, i1⟩, by simp only [List.map_cons, C10.total, C13.sumLen, i2]⟩

/-- an extent of the request is a chunk of the index that is marked missing and has stored bytes -/
def ExtOk (th : Hdr) (valid : List Int) (x : C10.Ext) : Prop :=
  ∃ c, th.chunks[x.number]? = some c ∧ valid.getD x.number 0 = 0 ∧ c.compLen = x.len ∧ x.len ≠ 0 ∧
    x.start = th.lead + th.headerLen + c.start

/-- what `missingExt` makes of an index with marks: an extent for every chunk marked 0 that has stored bytes, in index order -/
theorem missingExt_chunks (off : Nat) (valid : List Int) (cs : List Chunk) :
    let all := C10.missingExt off (cs.map fun c => (⟨c.number, c.start, c.compLen, valid.getD c.number 0⟩ : Range.Chunk))
    (∀ x, x ∈ all ↔ ∃ c ∈ cs, valid.getD c.number 0 = 0 ∧ c.compLen ≠ 0 ∧ x = ⟨c.number, c.start + off, c.compLen⟩) ∧
    (all.map (·.number)).Sublist (cs.map (·.number)) := by
  refine ⟨fun x => ?_, ?_⟩
  · simp only [C10.missingExt, List.mem_map, List.mem_filter, decide_eq_true_eq]
    constructor
    · rintro ⟨_, ⟨⟨c, hc, rfl⟩, hv, hz⟩, rfl⟩; exact ⟨c, hc, hv, hz, rfl⟩
    · rintro ⟨c, hc, hv, hz, rfl⟩; exact ⟨_, ⟨⟨c, hc, rfl⟩, hv, hz⟩, rfl⟩
  · simp only [C10.missingExt, List.map_map]
    have : cs.map (·.number) = (cs.map fun c => (⟨c.number, c.start, c.compLen, valid.getD c.number 0⟩ : Range.Chunk)).map
        ((fun x : C10.Ext => x.number) ∘ fun c => ⟨c.number, c.start + off, c.compLen⟩) := by
      rw [List.map_map]; rfl
    rw [this]
    exact List.Sublist.map _ List.filter_sublist

/-- what `zck_get_missing_range` asks for, for any marks and limit: the specified request (C10) for extents that are chunks of
the index marked missing, with stored bytes, each once — and some, if any such chunk exists -/
theorem reqOf_spec (th : Hdr) (limit : Int) (valid : List Int) (hrun : C13.RunFrom 0 0 th.chunks)
    (hbound : th.lead + th.headerLen + C13.sumLen th.chunks < 2^64) :
    ∃ exts : List C10.Ext, reqOf th limit valid = C10.specSt exts ∧ (∀ x ∈ exts, ExtOk th valid x) ∧
      (exts.map (·.number)).Nodup ∧ C10.AscFrom (th.lead + th.headerLen) exts ∧
      ((∃ k c, th.chunks[k]? = some c ∧ valid.getD k 0 = 0 ∧ c.compLen ≠ 0) → exts ≠ []) := by
  obtain ⟨hrs, htot⟩ := runSum_of_runFrom valid th.chunks 0 0 hrun
  -- a chunk sits at its number, and no number comes twice
  have hnum : ∀ c ∈ th.chunks, th.chunks[c.number]? = some c := fun c hc => by
    obtain ⟨j, hj⟩ := List.mem_iff_getElem?.mp hc
    rw [C13.run_number hrun j c hj, Nat.zero_add]; exact hj
  have hnd : (th.chunks.map (·.number)).Nodup := by rw [C13.run_numbers hrun]; exact List.nodup_range'
  unfold reqOf
  rw [rchunks_run valid th.chunks 0 0 hrun]
  obtain ⟨hmem, hsub⟩ := missingExt_chunks (th.lead + th.headerLen) valid th.chunks
  have hasc := C10.missingExt_asc (th.lead + th.headerLen) 0 _ hrs
  -- the request covers a prefix `all.take k` of the missing extents
  obtain ⟨k, _, _, hk3, _, hm⟩ := C10.missing_spec (th.lead + th.headerLen) _ limit hrs (by rw [htot]; exact hbound)
  generalize C10.missingExt (th.lead + th.headerLen)
    (th.chunks.map fun c => (⟨c.number, c.start, c.compLen, valid.getD c.number 0⟩ : Range.Chunk)) = all at hmem hsub hasc hm hk3
  refine ⟨all.take k, hm, fun x hx => ?_,
    List.Nodup.sublist (List.Sublist.map _ (List.take_sublist _ _)) (List.Nodup.sublist hsub hnd),
    C10.AscFrom.take all _ k (by rwa [Nat.zero_add] at hasc), fun ⟨j, c, hc, hv, hz⟩ => ?_⟩
  · obtain ⟨c, hc, hv, hz, rfl⟩ := (hmem x).mp (List.mem_of_mem_take hx)
    exact ⟨c, hnum c hc, hv, rfl, hz, by simp only; omega⟩
  · have hj : c.number = j := by rw [C13.run_number hrun j c hc, Nat.zero_add]
    have hne : all ≠ [] := List.ne_nil_of_mem ((hmem _).mpr ⟨c, List.mem_of_getElem? hc, by rw [hj]; exact hv, hz, rfl⟩)
    exact fun h => (List.take_eq_nil_iff.mp h).elim (Nat.ne_of_gt (hk3 hne)) hne

/-- C04, nothing already valid is requested, for any limit -/
theorem request_only_missing (th : Hdr) (limit : Int) (valid : List Int) (hrun : C13.RunFrom 0 0 th.chunks)
    (hbound : th.lead + th.headerLen + C13.sumLen th.chunks < 2^64) :
    ∀ p ∈ (reqOf th limit valid).index, ∃ c, th.chunks[p.1]? = some c ∧ valid.getD p.1 0 = 0 ∧ c.compLen ≠ 0 := by
  obtain ⟨exts, hreq, hok, _⟩ := reqOf_spec th limit valid hrun hbound
  intro p hp
  rw [hreq] at hp
  obtain ⟨x, hx, rfl⟩ := List.mem_map.mp hp
  obtain ⟨c, h1, h2, h3, h4, _⟩ := hok x hx
  exact ⟨c, h1, h2, by rw [h3]; exact h4⟩

theorem copyFrom_keeps (H : HashFn) (A : Option Bytes) (th : Hdr) (t : Tgt) (j : Nat) (h : t.valid.getD j 0 = 1) :
    (copyFrom H A th t).valid.getD j 0 = 1 :=
  copyFrom_induct H A th (fun t' => t'.valid.getD j 0 = 1) t
    (fun a ah tc n sc t' _ _ _ hnv _ _ hP => by rwa [writeAndVerify_getD_ne H a ah th t' n sc tc j (fun hjn => hnv (hjn ▸ hP))]) h

/-- a chunk marked valid at the start of a round is not in that round's request -/
theorem valid_not_requested (th : Hdr) (limit : Int) (valid : List Int) (k : Nat)
    (hrun : C13.RunFrom 0 0 th.chunks) (hbound : th.lead + th.headerLen + C13.sumLen th.chunks < 2^64)
    (hv : valid.getD k 0 = 1) : ∀ p ∈ (reqOf th limit valid).index, p.1 ≠ k := by
  intro p hp heq
  obtain ⟨c, _, h0, _⟩ := request_only_missing th limit valid hrun hbound p hp
  rw [heq, hv] at h0
  omega

/-- C04 / C11, nothing already present is fetched again: a chunk the scan marks valid (C09: exactly the chunks present in the
target as the procedure — or an interrupted earlier run — left it) is still marked valid after the copy step and the reset, and
is not in the first request.  (For the later rounds: a valid mark stays, `loop_sound`, and `valid_not_requested`.) -/
theorem present_not_requested (H : HashFn) (A : Option Bytes) (t2 : Bytes) (th : Hdr) (limit : Int) (k : Nat)
    (hrun : C13.RunFrom 0 0 th.chunks) (hbound : th.lead + th.headerLen + C13.sumLen th.chunks < 2^64)
    (hscan : (Reader.validateChecksums H t2 (Reader.openCtx th)).2.valid.getD k 0 = 1) :
    let valid := resetFailed (copyFrom H A th ⟨t2, (Reader.validateChecksums H t2 (Reader.openCtx th)).2.valid⟩).valid
    valid.getD k 0 = 1 ∧ ∀ p ∈ (reqOf th limit valid).index, p.1 ≠ k := by
  intro valid
  have hv : valid.getD k 0 = 1 := (resetFailed_eq_one _ _).mpr (copyFrom_keeps H A th _ k hscan)
  exact ⟨hv, valid_not_requested th limit valid k hrun hbound hv⟩

end Zck.C04
