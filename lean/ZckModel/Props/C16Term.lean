/-
C16 / C01 — the automatic chunker terminates: `zck_write` in automatic mode never gets stuck re-examining a byte.

When the rolling hash asks for a boundary while the chunk is still below the automatic minimum, the C loop refuses and examines
THE SAME byte again — which feeds it to the rolling hash again.  Nothing in the loop's own logic bounds how often that can happen;
what bounds it is a property of the buzhash table: once the 48-byte window holds only copies of the byte under examination (after
at most 48 re-examinations), two boundary requests in a row would force `rol(T[b], 48) xor T[b]` to have its bits 1..14 clear, and
no entry of the table has (`kb_ok`, checked by the kernel on the table GENERATED from src/lib/buzhash/buzhash.c).  Counted in
examinations of one byte: after the first refusal the window ends with the byte, every further refusal lengthens that run by one,
and a window of `W` copies allows no request after a refused one — `W + 1` examinations.  The statements ask for more than that
(`chain` for one more than it uses, `feedAuto_terminates` for `W + 3`) and the model's loop carries `W + 4` (`refeedFuel`), so the
fuel is never exhausted: `zck_write` / `zck_close` complete for every content, every segmentation and every legal configuration,
and the hypothesis "the calls and the close complete" of `W_structure` is discharged.
-/
import ZckModel.Props.C01

namespace Zck.C16T
open Zck.Writer

theorem low_bits_zero (n : Nat) (h : n % 2^15 = 0) (i : Nat) (hi : i < 15) : n.testBit i = false := by
  have := Nat.testBit_mod_two_pow n 15 i
  rw [h, Nat.zero_testBit] at this
  simp [hi] at this
  exact this

theorem rol1_toNat (h : UInt32) : (rol32 h 1).toNat = (h.toNat <<< 1 % 2^32) ||| (h.toNat >>> 31) := by
  unfold rol32
  simp only [Nat.one_mod, Nat.succ_ne_zero, ↓reduceIte]
  rw [UInt32.toNat_or, UInt32.toNat_shiftLeft, UInt32.toNat_shiftRight]
  rfl

/-- if the low 15 bits of `h` are clear and so are those of `rol(h, 1) xor K`, then bits 1..14 of `K` are clear -/
theorem rol1_low (h K : UInt32) (hh : h.toNat % 2^15 = 0) (hk : (rol32 h 1 ^^^ K).toNat % 2^15 = 0) :
    K.toNat % 2^15 < 2 := by
  have hb : ∀ i, 1 ≤ i → i < 15 → K.toNat.testBit i = false := by
    intro i h1 h15
    have hx := low_bits_zero _ hk i h15
    rw [UInt32.toNat_xor, Nat.testBit_xor, rol1_toNat, Nat.testBit_or, Nat.testBit_mod_two_pow, Nat.testBit_shiftLeft,
      Nat.testBit_shiftRight] at hx
    have h2 : h.toNat.testBit (i - 1) = false := low_bits_zero _ hh (i - 1) (by omega)
    have h3 : h.toNat.testBit (31 + i) = false := by
      apply Nat.testBit_lt_two_pow
      have : h.toNat < 2^32 := h.toNat_lt
      calc h.toNat < 2^32 := this
        _ ≤ 2^(31 + i) := Nat.pow_le_pow_right (by decide) (Nat.add_le_add_left h1 31)
    rw [h2, h3] at hx
    simpa using hx
  have : K.toNat % 2^15 < 2^1 := by
    apply Nat.lt_pow_two_of_testBit
    intro i hi
    rw [Nat.testBit_mod_two_pow]
    by_cases h15 : i < 15
    · rw [hb i hi h15]; simp
    · simp [h15]
  simpa using this

/-- the table property (kernel-checked on the generated table): for every entry `t`, `rol(t, 48) xor t` has a set bit among
bits 1..14.  Stated over the list, so that the kernel walks the 256 entries once. -/
theorem kb_ok : ∀ t ∈ Zck.Gen.buzhashTable, 2 ≤ (rol32 t 48 ^^^ t).toNat % 2^15 := by
  decide +kernel

theorem tbl_mem (b : UInt8) : tbl b ∈ Zck.Gen.buzhashTable := by
  have hl : b.toNat < Zck.Gen.buzhashTable.length :=
    Nat.lt_of_lt_of_eq b.toNat_lt (by decide +kernel : 256 = Zck.Gen.buzhashTable.length)
  unfold tbl
  rw [List.getD_eq_getElem?_getD, List.getElem?_eq_getElem hl]
  exact List.getElem_mem hl

/-- a configuration as the library runs it: the buzhash constants of `comp_init`, effective limits in order -/
structure Std (cfg : Cfg) : Prop where
  hW : cfg.W = 48
  hbits : cfg.bits = 15
  hmm : cfg.autoMin ≤ cfg.autoMax
  hmin : cfg.chunkMin ≤ cfg.autoMin
  hpos : 0 < cfg.autoMax

theorem Std.mask {cfg : Cfg} (hs : Std cfg) : cfg.mask + 1 = 2^15 := by
  unfold Cfg.mask; rw [hs.hbits]

def BW (W : Nat) : Buz → Prop
  | none => True
  | some (win, _) => win.length ≤ W

/-- the last `m` bytes of a full window are all `b` -/
def Suf (b : UInt8) (m : Nat) (win : Bytes) : Prop :=
  win.length = 48 ∧ ∀ i, 48 - m ≤ i → i < 48 → win[i]? = some b

theorem buzUpdate_full (win : Bytes) (h : UInt32) (c : UInt8) (hl : win.length = 48) :
    buzUpdate 48 (some (win, h)) c =
      (some (win.drop 1 ++ [c], rol32 h 1 ^^^ rol32 (tbl (win.headD 0)) 48 ^^^ tbl c),
       rol32 h 1 ^^^ rol32 (tbl (win.headD 0)) 48 ^^^ tbl c) := by
  unfold buzUpdate
  simp only [Option.getD_some]
  rw [if_neg (hl ▸ Nat.lt_irrefl 48)]

theorem suf_roll (b : UInt8) (m : Nat) (win : Bytes) (hs : Suf b m win) (hm : m < 48) : Suf b (m + 1) (win.drop 1 ++ [b]) := by
  obtain ⟨hl, hb⟩ := hs
  have hd : (win.drop 1).length = 47 := by rw [List.length_drop, hl]
  refine ⟨by rw [List.length_append, hd]; rfl, fun i h1 h2 => ?_⟩
  rcases Nat.lt_or_eq_of_le (Nat.le_of_lt_succ h2) with h47 | rfl
  · -- an old byte, one place further down
    rw [List.getElem?_append_left (hd ▸ h47), List.getElem?_drop]
    exact hb (1 + i) (by omega) (by omega)
  · rw [List.getElem?_append_right (Nat.le_of_eq hd), hd]
    rfl

theorem suf_one (b : UInt8) (win : Bytes) (hl : win.length + 1 = 48) : Suf b 1 (win ++ [b]) := by
  refine ⟨by rw [List.length_append]; exact hl, fun i h1 h2 => ?_⟩
  rw [show i = win.length by omega, List.getElem?_append_right (Nat.le_refl _), Nat.sub_self]
  rfl

theorem suf_head (b : UInt8) (win : Bytes) (hs : Suf b 48 win) : win.headD 0 = b := by
  have := hs.2 0 (Nat.le_of_eq (Nat.sub_self 48)) (by decide)
  cases win with
  | nil => cases this
  | cons x xs => exact Option.some.inj this

/-- while the window fills `buzhash_update` answers 1; once it is full, the new hash -/
theorem buzUpdate_spec (W : Nat) (hW : 0 < W) (bz : Buz) (c : UInt8) (hb : BW W bz) :
    ∃ win h, (buzUpdate W bz c).1 = some (win ++ [c], h) ∧ win.length < W ∧
      ((buzUpdate W bz c).2 = 1 ∨ (win.length + 1 = W ∧ (buzUpdate W bz c).2 = h)) := by
  -- no window counts as an empty one
  have hl : (bz.getD ([], 0)).1.length ≤ W := by
    cases bz with
    | none => exact Nat.zero_le _
    | some p => exact hb
  unfold buzUpdate
  generalize bz.getD ([], 0) = p at hl
  obtain ⟨win, h⟩ := p
  simp only at hl ⊢
  by_cases h1 : win.length < W
  · rw [if_pos h1]
    by_cases h2 : (win ++ [c]).length < W
    · rw [if_pos h2]
      exact ⟨win, _, rfl, h1, Or.inl rfl⟩
    · rw [if_neg h2]
      exact ⟨win, _, rfl, h1, Or.inr ⟨Nat.le_antisymm h1 (Nat.not_lt.mp (by rwa [List.length_append] at h2)), rfl⟩⟩
  · rw [if_neg h1]
    have hd : (win.drop 1).length + 1 = W := by rw [List.length_drop]; omega
    exact ⟨win.drop 1, _, rfl, hd ▸ Nat.lt_succ_self _, Or.inr ⟨hd, rfl⟩⟩

theorem buzUpdate_bw (W : Nat) (hW : 0 < W) (bz : Buz) (c : UInt8) (h : BW W bz) : BW W (buzUpdate W bz c).1 := by
  obtain ⟨win, h', e, hl, _⟩ := buzUpdate_spec W hW bz c h
  rw [e]
  show (win ++ [c]).length ≤ W
  rw [List.length_append]
  exact hl

/-- from a full window whose last `m` bytes are the byte under examination, with the previous boundary request refused: at most
`48 - m + 1` further examinations -/
theorem chain (cfg : Cfg) (hs : Std cfg) (b : UInt8) : ∀ (fuel : Nat) (st : St) (win : Bytes) (h : UInt32) (m : Nat),
    st.buz = some (win, h) → Suf b m win → m ≤ 48 → h.toNat % 2^15 = 0 → st.curLen < cfg.autoMin →
    50 ≤ m + fuel → (feedAuto cfg fuel st b).isSome = true
  | 0, _, _, _, _, _, _, h48, _, _, hf => absurd (Nat.le_trans hf h48) (by decide)
  | fuel + 1, st, win, h, m, hbz, hsuf, h48, htr, hcur, hf => by
    by_cases hB : Boundary cfg st b
    · rw [feedAuto_refuse fuel hB hcur]
      -- the chunk is below `auto_min ≤ auto_max`, so the request came from the hash, which has rolled: the window was full
      have htr' := hB.resolve_right (Nat.not_le_of_lt (Nat.lt_of_lt_of_le hcur hs.hmm))
      rw [hs.hW, hbz, buzUpdate_full win h b hsuf.1] at htr' ⊢
      rw [hs.mask] at htr'
      rcases Nat.lt_or_eq_of_le h48 with hlt | rfl
      · exact chain cfg hs b fuel _ _ _ (m + 1) rfl (suf_roll b m win hsuf hlt) hlt htr' hcur
          (by rw [Nat.add_right_comm]; exact hf)
      · -- the window holds only `b`: two requests in a row contradict the table property
        rw [suf_head b win hsuf, UInt32.xor_assoc] at htr'
        exact absurd (kb_ok _ (tbl_mem b)) (Nat.not_le_of_lt (rol1_low h _ htr htr'))
    · rw [feedAuto_take fuel hB]; rfl

/-- a byte examined in the state right after a chunk was ended is absorbed at once -/
theorem feed_fresh (cfg : Cfg) (hs : Std cfg) (b : UInt8) (fuel : Nat) (st : St) (hb : st.buz = none) (hc : st.curLen = 0) :
    (feedAuto cfg (fuel + 1) st b).isSome = true := by
  -- the window starts to fill and `buzhash_update` answers 1; an empty chunk has not reached `auto_max > 0`
  have hu : (buzUpdate 48 none b).2 = 1 := by unfold buzUpdate; simp
  have hB : ¬ Boundary cfg st b := by
    rintro (hx | hx)
    · rw [hs.hW, hb, hu, hs.mask] at hx; exact absurd hx (by decide)
    · exact Nat.not_lt.mpr hx (hc ▸ hs.hpos)
  rw [feedAuto_take fuel hB]; rfl

theorem endChunk_fresh (cfg : Cfg) (st : St) (h : cfg.chunkMin ≤ st.curLen) :
    (endChunk cfg st false).buz = none ∧ (endChunk cfg st false).curLen = 0 := by
  rcases endChunk_cases cfg st false with ⟨_, _, hlt⟩ | ⟨he, h0⟩ | ⟨he, _⟩
  · exact absurd h (Nat.not_le_of_lt hlt)
  · rw [he]; exact ⟨rfl, h0⟩
  · rw [he]; exact ⟨rfl, rfl⟩

/-- the automatic branch never exhausts its fuel -/
theorem feedAuto_terminates (cfg : Cfg) (hs : Std cfg) (b : UInt8) (st : St) (hbw : BW 48 st.buz) (fuel : Nat) (hf : 51 ≤ fuel) :
    (feedAuto cfg fuel st b).isSome = true := by
  cases fuel with
  | zero => exact absurd hf (by decide)
  | succ fuel =>
    have hf' : 50 ≤ fuel := Nat.le_of_succ_le_succ hf
    by_cases hB : Boundary cfg st b
    · rcases Nat.lt_or_ge st.curLen cfg.autoMin with hcur | hge
      · -- refused: the request came from the hash, so the window is full by now and ends with `b`
        rw [feedAuto_refuse fuel hB hcur]
        have hres := hB.resolve_right (Nat.not_le_of_lt (Nat.lt_of_lt_of_le hcur hs.hmm))
        rw [hs.hW, hs.mask] at hres
        obtain ⟨win, h, e, _, h1 | ⟨hfull, hh⟩⟩ := buzUpdate_spec 48 (by decide) st.buz b hbw
        · rw [h1] at hres; exact absurd hres (by decide)
        · exact chain cfg hs b fuel _ (win ++ [b]) h 1 (by rw [hs.hW]; exact e) (suf_one b win hfull) (by decide) (hh ▸ hres) hcur
            (Nat.le_trans hf' (Nat.le_add_left _ _))
      · rw [feedAuto_accept fuel hB hge]
        cases fuel with
        | zero => exact absurd hf' (by decide)
        | succ fuel =>
          obtain ⟨h1, h2⟩ := endChunk_fresh cfg { st with buz := (buzUpdate cfg.W st.buz b).1 } (Nat.le_trans hs.hmin hge)
          exact feed_fresh cfg hs b fuel _ h1 h2
    · rw [feedAuto_take fuel hB]; rfl

theorem endChunk_bw (cfg : Cfg) (st : St) (force : Bool) (h : BW cfg.W st.buz) : BW cfg.W (endChunk cfg st force).buz := by
  rcases endChunk_cases cfg st force with ⟨he, _⟩ | ⟨he, _⟩ | ⟨he, _⟩ <;> rw [he]
  · exact h
  · trivial
  · trivial

theorem Std.bw {cfg : Cfg} (hs : Std cfg) : Kept cfg (fun st => BW cfg.W st.buz) :=
  ⟨fun st b h => buzUpdate_bw cfg.W (by rw [hs.hW]; decide) st.buz b h, endChunk_bw cfg, fun _ _ h => h⟩

theorem writeAuto_total (cfg : Cfg) (hs : Std cfg) : ∀ (bs : Bytes) (st : St), BW cfg.W st.buz →
    ∃ st', writeAuto cfg st bs = some st' ∧ BW cfg.W st'.buz
  | [], st, hb => ⟨st, rfl, hb⟩
  | b :: rest, st, hb => by
    have ht := feedAuto_terminates cfg hs b st (by rw [← hs.hW]; exact hb) (refeedFuel cfg) (by unfold refeedFuel; rw [hs.hW]; decide)
    obtain ⟨st1, hf⟩ := Option.isSome_iff_exists.mp ht
    obtain ⟨st', h1, h2⟩ := writeAuto_total cfg hs rest st1 (kept_feedAuto hs.bw b _ st st1 hb hf)
    exact ⟨st', writeAuto_cons_eq_some.mpr ⟨st1, hf, h1⟩, h2⟩

theorem applyOp_total (cfg : Cfg) (hs : Std cfg) (st : St) (op : Op) (hb : BW cfg.W st.buz) :
    ∃ st', applyOp cfg st op = some st' ∧ BW cfg.W st'.buz := by
  have : ∃ st', applyOp cfg st op = some st' := by
    cases op with
    | endChunk => exact ⟨_, rfl⟩
    | write bs =>
      cases hm : cfg.manual with
      | true => exact ⟨_, applyOp_manual st bs hm⟩
      | false =>
        obtain ⟨st', h, _⟩ := writeAuto_total cfg hs bs st hb
        exact ⟨st', (applyOp_auto st bs hm).trans h⟩
  obtain ⟨st', h⟩ := this
  exact ⟨st', h, kept_applyOp hs.bw st st' op hb h⟩

theorem run_terminates (cfg : Cfg) (hs : Std cfg) : ∀ (ops : List Op) (st : St), BW cfg.W st.buz →
    ∃ st', run cfg st ops = some st'
  | [], st, _ => ⟨st, rfl⟩
  | op :: ops, st, hb => by
    obtain ⟨st1, h1, hb1⟩ := applyOp_total cfg hs st op hb
    obtain ⟨st', h2⟩ := run_terminates cfg hs ops st1 hb1
    exact ⟨st', run_cons_eq_some.mpr ⟨st1, h1, h2⟩⟩

theorem std_of_legal (cfg : Cfg) (hl : Legal cfg.norm) (hW : cfg.W = 48) (hb : cfg.bits = 15) : Std cfg.norm :=
  ⟨hW, hb, autoMin_le _, le_autoMin _, autoMax_pos _ hl.1⟩

/-- C01 / C16, the writer always completes: for every legal configuration and every sequence of calls `zck_close` yields a
chunk list -/
theorem closeChunks_total (cfg : Cfg) (hl : Legal cfg.norm) (hW : cfg.W = 48) (hb : cfg.bits = 15) (ops : List Op) :
    ∃ cs, closeChunks cfg ops = some cs := by
  obtain ⟨st, h⟩ := run_terminates cfg.norm (std_of_legal cfg hl hW hb) ops {} trivial
  exact ⟨_, by unfold closeChunks; rw [h]; rfl⟩

/-- ... and the chunks are the bytes written: `W_structure` without its "if the calls complete" -/
theorem written_back_total (cfg : Cfg) (hl : Legal cfg.norm) (hW : cfg.W = 48) (hb : cfg.bits = 15) (ops : List Op) :
    ∃ cs, closeChunks cfg ops = some cs ∧ cs.flatten = written ops := by
  obtain ⟨cs, h⟩ := closeChunks_total cfg hl hW hb ops
  exact ⟨cs, h, C01.W_structure cfg hl ops cs h⟩

/-! non-vacuity (test): the default configuration is standard -/
example : Std (Cfg.norm { manual := false, chunkMin := 0, chunkMax := 0 }) :=
  std_of_legal _ ⟨by decide, by decide⟩ rfl rfl

end Zck.C16T
