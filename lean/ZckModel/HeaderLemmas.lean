/- Lemmas about the header-reader model (`Header.lean`).  Every primitive of the `Res` monad says what its success means
(`simp_res`), and every stage of the reader is characterised once, in the order of the program, so that a proof takes a stage apart
against a written statement (`.._eq_ok`, `.._succ`); no function reads outside its buffer; reads in a buffer that holds the first
bytes of a file are stated in terms of the file. -/
import ZckModel.Header
import ZckModel.BytesLemmas
import ZckModel.CompintLemmas

namespace Zck.Header
open Zck.Compint Zck.Res Zck.Format Zck.Reader

theorem rdSlice_eq_ok (m : Bytes) (pos n : Nat) (x : Bytes) :
    rdSlice m pos n = .ok x ↔ pos + n ≤ m.length ∧ fileRead m pos n = x := by
  unfold rdSlice fileRead
  split <;> simp [*]

theorem guard_eq_ok (c : Prop) [Decidable c] (u : Unit) : guard c = .ok u ↔ c := by
  unfold guard; split <;> simp [*]

theorem hsizeRes_eq_ok (t d : Nat) : hsizeRes t = .ok d ↔ Format.hsize t = some d := by
  unfold hsizeRes; split <;> simp [*]

theorem noOob_guard (c : Prop) [Decidable c] : NoOob (guard c) ↔ True := by
  unfold guard; split <;> simp [noOob_ok, noOob_err]

theorem noOob_hsizeRes (t : Nat) : NoOob (hsizeRes t) ↔ True := by
  unfold hsizeRes; split <;> simp [noOob_ok, noOob_err]

theorem noOob_rdSlice (m : Bytes) (pos n : Nat) : NoOob (rdSlice m pos n) ↔ pos + n ≤ m.length := by
  unfold rdSlice; split <;> simp [*, NoOob]

open Lean.Parser.Tactic in
/-- `simp_res [f, ..] at h` is `simp only [f, ..]` together with one iff per primitive of the `Res` monad (what `x = .ok a` says for a
bind, a guard, a bounds-checked read, `pure`; what `NoOob x` needs) and the lemmas that flatten the result.  Since every lemma is an
iff, one call turns `f .. = .ok r` into the conjunction under which `f` succeeds with `r`, in a hypothesis and in a goal alike.  It is
a macro over a fixed lemma list, not a simp attribute, because declaring an attribute would make every module import `Lean`. -/
macro "simp_res" "[" ls:simpLemma,* "]" loc:(location)? : tactic =>
  `(tactic| simp only [bind_eq_ok, pure_eq, Res.ok.injEq, guard_eq_ok, hsizeRes_eq_ok, rdSlice_eq_ok, noOob_bind_iff, noOob_ok_iff,
      noOob_err_iff, noOob_guard, noOob_hsizeRes, noOob_rdSlice, Prod.exists, Prod.mk.injEq, exists_const, true_and, and_true,
      implies_true, and_assoc, exists_and_left, exists_eq_left, exists_eq_left', $ls,*] $[$loc]?)

theorem decSize_noOob {m : Bytes} {pos maxLen : Nat} (h : maxLen ≤ m.length) :
    NoOob (decSize m pos maxLen) ↔ True :=
  iff_true_intro fun i => by rw [C20.decSize_eq_spec h]; exact C20.specDec_not_oob i

theorem decInt_noOob {m : Bytes} {pos maxLen : Nat} (h : maxLen ≤ m.length) :
    NoOob (decInt m pos maxLen) ↔ True :=
  iff_true_intro fun i => by rw [C20.decInt_eq_spec h]; exact C20.specDec_not_oob i

theorem readLead_noOob (pins : Pins) (f : Bytes) : NoOob (readLead pins f) := by
  simp_res [readLead]
  -- left are the reads themselves, each under the guards passed before it: the two integers are decoded in a buffer that,
  -- after the short-read guard, does hold `leadRead` bytes
  intro _ (h25 : leadRead ≤ f.length) _ _
  have htake : leadRead ≤ (f.take leadRead).length := by rw [List.length_take]; exact Nat.le_min.mpr ⟨Nat.le_refl _, h25⟩
  simp only [decInt_noOob htake, decSize_noOob htake, true_and, List.length_take]
  -- and the checksum is read from a buffer of `max leadRead need` bytes of a file that has `need` bytes
  intro x1 _ _ _ ds _ x2 _ _ (hneed : 5 + x1.2 + x2.2 + ds ≤ f.length)
  split
  · exact Nat.le_min.mpr ⟨Nat.le_refl _, hneed⟩
  · exact Nat.le_min.mpr ⟨Nat.le_of_not_lt ‹_›, hneed⟩

/-! Reads in a buffer that holds the first `K` bytes of a file `f`, in terms of `f` alone.  The pivot is the integer that stands at position `pos` of the file, `value (f.drop pos) = some (v, n)`: it does not depend on the
buffer or on a limit; a decoder's limit only has to lie behind its last byte (`value_take`). -/

theorem rdSlice_take_ok {f : Bytes} {K pos n : Nat} {x : Bytes} (hK : K ≤ f.length) :
    rdSlice (f.take K) pos n = .ok x ↔ pos + n ≤ K ∧ fileRead f pos n = x := by
  rw [rdSlice_eq_ok, List.length_take, Nat.min_eq_left hK]
  exact and_congr_right fun h => by rw [fileRead_take h]

theorem specDec_take_ok {f : Bytes} {K pos lim L v n : Nat} (hl : lim ≤ K) :
    C20.specDec (window (f.take K) pos lim) L = .ok (v, n) ↔
      value (f.drop pos) = some (v, n) ∧ pos + n ≤ lim ∧ n ≤ 10 ∧ v < L := by
  rw [C20.specDec_eq_ok, window_eq, List.drop_take, List.take_take, value_take]
  constructor
  · rintro ⟨⟨h, h1⟩, h2⟩; have := value_len_pos h; exact ⟨h, by omega, h2⟩
  · rintro ⟨h, h1, h2⟩; exact ⟨⟨h, by omega⟩, h2⟩

theorem decSize_take_ok {f : Bytes} {K pos lim v n : Nat} (hl : lim ≤ K) (hK : K ≤ f.length) :
    decSize (f.take K) pos lim = .ok (v, n) ↔
      value (f.drop pos) = some (v, n) ∧ pos + n ≤ lim ∧ n ≤ 10 ∧ v < 2^64 := by
  rw [C20.decSize_eq_spec (by rw [List.length_take]; omega), specDec_take_ok hl]

theorem decInt_take_ok {f : Bytes} {K pos lim v n : Nat} (hl : lim ≤ K) (hK : K ≤ f.length) :
    decInt (f.take K) pos lim = .ok (v, n) ↔
      value (f.drop pos) = some (v, n) ∧ pos + n ≤ lim ∧ n ≤ 10 ∧ v < 2^31 := by
  rw [C20.decInt_eq_spec (by rw [List.length_take]; omega), specDec_take_ok hl]

theorem leadRead_def : leadRead = 25 := by decide

theorem readLead_eq_ok (pins : Pins) (f : Bytes) (l : Lead) :
    readLead pins f = .ok l ↔
      ((pins.ht = none ∨ pins.ht = some l.hashType) ∧ (pins.digest = none ∨ pins.digest = some l.digest) ∧
        (pins.len = none ∨ pins.len = some ((l.headerLen + l.leadSize) % 2^64))) ∧
      ∃ n1 n2 ht ds hlen,
        25 ≤ f.length ∧ (f.take 5 = magicFile ∨ f.take 5 = magicDet) ∧
        (value (f.drop 5) = some (ht, n1) ∧ 5 + n1 ≤ 25 ∧ n1 ≤ 10 ∧ ht < 2^31) ∧
        hsize ht = some ds ∧
        (value (f.drop (5 + n1)) = some (hlen, n2) ∧ 5 + n1 + n2 ≤ 25 ∧ n2 ≤ 10 ∧ hlen < 2^64) ∧
        5 + n1 + n2 + ds ≤ f.length ∧
        l = ⟨decide (f.take 5 = magicDet), ht, ds, hlen, 5 + n1 + n2, 5 + n1 + n2 + ds,
          if 25 < 5 + n1 + n2 + ds then 5 + n1 + n2 + ds else 25, fileRead f (5 + n1 + n2) ds⟩ := by
  -- the checksum is read in a buffer that holds it, whichever of the two sizes the buffer has
  have e : ∀ loc ds, fileRead (f.take (if 25 < loc + ds then loc + ds else 25)) loc ds = fileRead f loc ds :=
    fun loc ds => fileRead_take (by split <;> omega)
  constructor
  · intro h
    simp_res [readLead, leadRead_def, List.take_take, Nat.min_eq_left (show 5 ≤ 25 by decide)] at h
    -- in the order of the program: short-read guard, identifier, type (decoded, pinned, supported), header length, checksum
    obtain ⟨h25, hm, ht, n1, d1, p1, ds, hds, hlen, n2, d2, hneed, hbuf, p2, p3, rfl⟩ := h
    rw [e] at p2 ⊢
    exact ⟨⟨p1, p2, p3⟩, n1, n2, ht, ds, hlen, h25, hm, (decInt_take_ok (Nat.le_refl _) h25).mp d1, hds,
      (decSize_take_ok (Nat.le_refl _) h25).mp d2, hneed, rfl⟩
  · rintro ⟨⟨p1, p2, p3⟩, n1, n2, ht, ds, hlen, h25, hm, d1, hds, d2, hneed, rfl⟩
    simp only at p1 p2 p3
    simp_res [readLead, leadRead_def, List.take_take, Nat.min_eq_left (show 5 ≤ 25 by decide)]
    exact ⟨h25, hm, ht, n1, (decInt_take_ok (Nat.le_refl _) h25).mpr d1, p1, ds, hds, hlen, n2,
      (decSize_take_ok (Nat.le_refl _) h25).mpr d2, hneed,
      by rw [List.length_take]; split <;> omega, by rw [e]; exact p2, p3, by rw [e]⟩

theorem readHeaderFromFile_noOob (H : HashFn) (f : Bytes) (l : Lead) :
    NoOob (readHeaderFromFile H f l) := by
  simp_res [readHeaderFromFile]

theorem readHeaderFromFile_eq_ok (H : HashFn) (f : Bytes) (l : Lead) (hb : Bytes) :
    readHeaderFromFile H f l = .ok hb ↔
      (l.leadSize ≠ 0 ∧ l.headerLen ≠ 0) ∧ l.leadSize + l.headerLen < 2^64 ∧ l.bufLen - l.leadSize ≤ l.headerLen ∧
      l.leadSize + l.headerLen ≤ f.length ∧ H l.hashType (digestInput f l) = some l.digest ∧
      f.take (l.leadSize + l.headerLen) = hb := by
  simp_res [readHeaderFromFile]

theorem readHeaderFromFile_len (H : HashFn) (f : Bytes) (l : Lead) (hb : Bytes)
    (h : readHeaderFromFile H f l = .ok hb) : hb.length = l.leadSize + l.headerLen := by
  obtain ⟨_, _, _, hK, _, rfl⟩ := (readHeaderFromFile_eq_ok H f l hb).mp h
  rw [List.length_take]; omega

theorem optLoop_noOob (hb : Bytes) (base maxLen : Nat) (hlen : base + maxLen ≤ hb.length) :
    ∀ n length, NoOob (optLoop hb base maxLen n length)
  | 0, length => noOob_ok _
  | n + 1, length => by
    simp_res [optLoop, decSize_noOob hlen, optLoop_noOob hb base maxLen hlen n]

theorem optLoop_succ (hb : Bytes) (base maxLen n length r : Nat) :
    optLoop hb base maxLen (n + 1) length = .ok r ↔
      ∃ id k1, decSize hb (base + length) (base + maxLen) = .ok (id, k1) ∧
      ∃ dsz k2, decSize hb (base + length + k1) (base + maxLen) = .ok (dsz, k2) ∧
        length + k1 + k2 ≤ maxLen ∧ dsz ≤ maxLen - (length + k1 + k2) ∧
        optLoop hb base maxLen n (length + k1 + k2 + dsz) = .ok r := by
  simp_res [optLoop]

theorem optLoop_cursor (hb : Bytes) (base maxLen : Nat) : ∀ (n length r : Nat),
    length ≤ maxLen → optLoop hb base maxLen n length = .ok r → length ≤ r ∧ r ≤ maxLen
  | 0, length, r, hl, h => by
    cases h; exact ⟨Nat.le_refl _, hl⟩
  | n + 1, length, r, hl, h => by
    obtain ⟨_, k1, _, dsz, k2, _, hk, hdsz, hrec⟩ := (optLoop_succ ..).mp h
    obtain ⟨h1, h2⟩ := optLoop_cursor hb base maxLen n (length + k1 + k2 + dsz) r
      (by omega) hrec
    exact ⟨by omega, h2⟩

theorem optPart_noOob (hb : Bytes) (base maxLen flags length : Nat) (hlen : base + maxLen ≤ hb.length) :
    NoOob (optPart hb base maxLen flags length) := by
  unfold optPart
  split <;> simp_res [decSize_noOob hlen, optLoop_noOob hb _ _ hlen]

theorem readPreface_noOob (hb : Bytes) (l : Lead) (hlen : hb.length = l.leadSize + l.headerLen) :
    NoOob (readPreface hb l) := by
  have hle : l.leadSize + l.headerLen ≤ hb.length := by omega
  simp_res [readPreface, decSize_noOob hle, decInt_noOob hle, optPart_noOob hb _ _ _ _ hle]
  omega

theorem readPreface_eq_ok (hb : Bytes) (l : Lead) (p : Pre) :
    readPreface hb l = .ok p ↔
      l.ds ≤ l.headerLen ∧ l.leadSize + l.ds ≤ hb.length ∧
      ∃ flags n1, decSize hb (l.leadSize + l.ds) (l.leadSize + l.headerLen) = .ok (flags, n1) ∧ flags % 2 = 0 ∧ flags < 8 ∧
      ∃ ct n2, decInt hb (l.leadSize + l.ds + n1) (l.leadSize + l.headerLen) = .ok (ct, n2) ∧ (ct = 0 ∨ ct = 2) ∧
      ∃ len, optPart hb l.leadSize l.headerLen flags (l.ds + n1 + n2) = .ok len ∧
      ∃ isz n4, decInt hb (l.leadSize + len) (l.leadSize + l.headerLen) = .ok (isz, n4) ∧
        ⟨fileRead hb l.leadSize l.ds, flags, ct, isz, len + n4⟩ = p := by
  simp_res [readPreface]

theorem udPart_noOob (hb : Bytes) (base limit cs : Nat) (withU : Bool) (length : Nat) (hlim : limit ≤ hb.length) :
    NoOob (udPart hb base limit cs withU length) := by
  unfold udPart
  split <;> simp_res []
  omega

theorem entryLoop_zero (hb : Bytes) (base size limit cs : Nat) (withU : Bool) (hdrTotal length count idxLoc : Nat)
    (r : List Chunk × Nat × Nat) :
    entryLoop hb base size limit cs withU hdrTotal 0 length count idxLoc = .ok r ↔ ¬ length < size ∧ r = ([], length, idxLoc) := by
  rw [entryLoop]
  by_cases h : length < size <;> simp only [h, ↓reduceIte, reduceCtorEq, Res.ok.injEq, not_true_eq_false, not_false_eq_true,
    false_and, true_and, eq_comm]

theorem entryLoop_succ (hb : Bytes) (base size limit cs : Nat) (withU : Bool) (hdrTotal fuel length count idxLoc : Nat)
    (r : List Chunk × Nat × Nat) :
    entryLoop hb base size limit cs withU hdrTotal (fuel + 1) length count idxLoc = .ok r ↔
      (¬ length < size ∧ r = ([], length, idxLoc)) ∨
      (length < size ∧ base + length + cs ≤ limit ∧ base + length + cs ≤ hb.length ∧
        ∃ u length2, udPart hb base limit cs withU (length + cs) = .ok (u, length2) ∧
        ∃ cl n1, decSize hb (base + length2) limit = .ok (cl, n1) ∧
          cl ≤ 2^63 - 1 - idxLoc ∧ idxLoc + cl ≤ 2^63 - 1 - hdrTotal ∧
        ∃ ln n2, decSize hb (base + length2 + n1) limit = .ok (ln, n2) ∧ ln ≤ 2^63 - 1 ∧
        ∃ rest endLen total,
          entryLoop hb base size limit cs withU hdrTotal fuel (length2 + n1 + n2) (count + 1) (idxLoc + cl) =
            .ok (rest, endLen, total) ∧
          (⟨count, fileRead hb (base + length) cs, u, cl, ln, idxLoc⟩ :: rest, endLen, total) = r) := by
  rw [entryLoop]
  by_cases h : length < size
  · simp_res [h, not_true_eq_false, ↓reduceIte, false_and, false_or]
  · rw [if_pos h]    -- before anything looks at the other branch, which is the whole loop body
    exact ⟨fun e => Or.inl ⟨h, (Res.ok.inj e).symm⟩, fun e => e.elim (fun e => e.2 ▸ rfl) fun e => absurd e.1 h⟩

theorem entryLoop_noOob (hb : Bytes) (base size limit cs : Nat) (withU : Bool) (hdrTotal : Nat)
    (hlim : limit ≤ hb.length) :
    ∀ fuel length count idxLoc, NoOob (entryLoop hb base size limit cs withU hdrTotal fuel length count idxLoc)
  | 0, length, _, idxLoc => by
    unfold entryLoop; split
    · exact noOob_err
    · exact noOob_ok _
  | fuel + 1, length, count, idxLoc => by
    unfold entryLoop
    split
    · exact noOob_ok _
    · simp_res [decSize_noOob hlim, udPart_noOob hb _ _ _ _ _ hlim,
        entryLoop_noOob hb base size limit cs withU hdrTotal hlim fuel]
      omega

theorem readIndex_noOob (hb : Bytes) (l : Lead) (p : Pre) (hlen : hb.length = l.leadSize + l.headerLen) :
    NoOob (readIndex hb l p) := by
  have hle : l.leadSize + l.headerLen ≤ hb.length := by omega
  simp_res [readIndex, decSize_noOob hle, decInt_noOob hle, entryLoop_noOob hb _ _ _ _ _ _ hle]

theorem readIndex_eq_ok (hb : Bytes) (l : Lead) (p : Pre) (x : Idx) :
    readIndex hb l p = .ok x ↔
      l.leadSize + p.prefaceSize + p.indexSize ≤ l.leadSize + l.headerLen ∧
      ∃ cht n1, decInt hb (l.leadSize + p.prefaceSize) (l.leadSize + l.headerLen) = .ok (cht, n1) ∧
      ∃ cs, hsize cht = some cs ∧
      ∃ cnt n2, decSize hb (l.leadSize + p.prefaceSize + n1) (l.leadSize + l.headerLen) = .ok (cnt, n2) ∧
      ∃ chunks endLen total,
        entryLoop hb (l.leadSize + p.prefaceSize) p.indexSize (l.leadSize + l.headerLen) cs (decide (p.flags / 4 % 2 = 1))
          (l.leadSize + l.headerLen) p.indexSize (n1 + n2) 0 0 = .ok (chunks, endLen, total) ∧
        endLen = p.indexSize ∧ cnt = chunks.length ∧ chunks.length ≠ 0 ∧ ⟨cht, cnt, chunks, total⟩ = x := by
  simp_res [readIndex]

theorem readSig_eq_ok (hb : Bytes) (l : Lead) (p : Pre) :
    readSig hb l p = .ok () ↔
      ∃ sc n, decInt hb (l.leadSize + p.prefaceSize + p.indexSize) (l.leadSize + l.headerLen) = .ok (sc, n) ∧ sc = 0 := by
  simp_res [readSig]

theorem readSig_noOob (hb : Bytes) (l : Lead) (p : Pre) (hlen : hb.length = l.leadSize + l.headerLen) :
    NoOob (readSig hb l p) := by
  have hle : l.leadSize + l.headerLen ≤ hb.length := by omega
  simp_res [readSig, decInt_noOob hle]

theorem readHeader_noOob (H : HashFn) (f : Bytes) (l : Lead) : NoOob (readHeader H f l) := by
  simp_res [readHeader, readHeaderFromFile_noOob]
  intro hb h1
  have hlen := readHeaderFromFile_len H f l hb h1
  exact ⟨readPreface_noOob hb l hlen, fun p _ => ⟨readIndex_noOob hb l p hlen, fun _ _ => readSig_noOob hb l p hlen⟩⟩

theorem openFile_noOob (H : HashFn) (f : Bytes) : NoOob (openFile H f) := by
  simp_res [openFile]
  exact ⟨readLead_noOob {} f, fun l _ => readHeader_noOob H f l⟩

theorem openFile_eq_ok (H : HashFn) (f : Bytes) (h : Format.Hdr) :
    openFile H f = .ok h ↔ ∃ l hb p x, readLead {} f = .ok l ∧ readHeaderFromFile H f l = .ok hb ∧
      readPreface hb l = .ok p ∧ readIndex hb l p = .ok x ∧ readSig hb l p = .ok () ∧ h = info l p x := by
  unfold openFile readHeader
  simp only [bind_eq_ok, pure_eq, Res.ok.injEq]
  constructor
  · rintro ⟨l, hl, hb, hhb, p, hp, x, hx, ⟨⟩, hs, rfl⟩
    exact ⟨l, hb, p, x, hl, hhb, hp, hx, hs, rfl⟩
  · rintro ⟨l, hb, p, x, hl, hhb, hp, hx, hs, rfl⟩
    exact ⟨l, hl, hb, hhb, p, hp, x, hx, (), hs, rfl⟩

end Zck.Header
