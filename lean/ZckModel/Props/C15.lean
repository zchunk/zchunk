/-
C15 — A unit-decoded chunk is verified before any of its bytes are released.
Theorems about the model of `comp_read` / `comp_end_dchunk` / `import_dict` (`Reader.lean`), for an arbitrary codec `D` (no
hypothesis: it may return anything for corrupted input) and an arbitrary hash function `H`.

First the invariant (namespace `Zck.Reader`): what `comp_read` copies to the caller and what it keeps buffered consists of pieces
of decoded content of chunks whose stored bytes match their index checksum (`Ver`).  It is kept by every iteration of the loop,
branch by branch through `ReaderStep.lean`, hence by every call, whatever the codec returns and whether or not calls fail.
Then the property (namespace `Zck.C15`): the same for every sequence of reads and `zck_clear_error` calls on an opened file.
-/
import ZckModel.ReaderStep

namespace Zck.Reader
open Zck.Format

/-- the chunk checksum context has been fed exactly the stored bytes that are pending for the decoder -/
def I1 (c : Ctx) : Prop := c.chunkHash = some c.data ∨ (c.chunkHash = none ∧ c.data = [])

/-- `p` was produced by the codec from stored bytes that match the index checksum of a chunk of
the file, and has that chunk's declared size -/
def Good (H : HashFn) (D : Decomp) (hdr : Hdr) (p : Bytes) : Prop :=
  ∃ ch, ch ∈ hdr.chunks ∧ ∃ (stored : Bytes) (dict : Option Bytes) (d : Bytes),
    D stored dict = some p ∧ p.length = ch.len ∧ H hdr.chunkHashType stored = some d ∧
    (if ch.compLen = 0 then zeros d.length else d) = ch.digest

/-- `x` is made of contiguous pieces of decoded content of verified chunks: every byte of `x`
was produced by the codec from stored bytes that match the index checksum of a chunk -/
def Ver (H : HashFn) (D : Decomp) (hdr : Hdr) (x : Bytes) : Prop :=
  ∃ segs : List Bytes, x = segs.flatten ∧
    ∀ s ∈ segs, ∃ p pre suf, Good H D hdr p ∧ p = pre ++ s ++ suf

theorem Ver.nil (H : HashFn) (D : Decomp) (hdr : Hdr) : Ver H D hdr [] := ⟨[], rfl, nofun⟩

theorem Ver.append {H : HashFn} {D : Decomp} {hdr : Hdr} {a b : Bytes}
    (ha : Ver H D hdr a) (hb : Ver H D hdr b) : Ver H D hdr (a ++ b) := by
  obtain ⟨sa, ea, ga⟩ := ha
  obtain ⟨sb, eb, gb⟩ := hb
  refine ⟨sa ++ sb, by rw [ea, eb, List.flatten_append], ?_⟩
  intro s hs
  rcases List.mem_append.mp hs with h | h
  · exact ga s h
  · exact gb s h

theorem Ver.piece {H : HashFn} {D : Decomp} {hdr : Hdr} {p a s b : Bytes} (h : Good H D hdr p) (e : p = a ++ s ++ b) :
    Ver H D hdr s :=
  ⟨[s], by simp, fun t ht => by simp at ht; subst ht; exact ⟨p, a, b, h, e⟩⟩

theorem Ver.take_drop {H : HashFn} {D : Decomp} {hdr : Hdr} {a : Bytes} (k : Nat)
    (ha : Ver H D hdr a) : Ver H D hdr (a.take k) ∧ Ver H D hdr (a.drop k) := by
  obtain ⟨segs, ea, ga⟩ := ha
  subst ea
  induction segs generalizing k with
  | nil => simpa using Ver.nil H D hdr
  | cons s rest ih =>
    simp only [List.flatten_cons, List.take_append, List.drop_append]
    obtain ⟨p, pre, suf, gp, ep⟩ := ga s (by simp)
    have ih := ih (k - s.length) (fun t ht => ga t (by simp [ht]))
    have e : pre ++ s.take k ++ s.drop k ++ suf = p := by rw [List.append_assoc pre, List.take_append_drop, ep]
    exact ⟨Ver.append (Ver.piece gp (a := pre) (b := s.drop k ++ suf) (by rw [← e]; simp only [List.append_assoc])) ih.1,
      Ver.append (Ver.piece gp (a := pre ++ s.take k) (b := suf) e.symm) ih.2⟩

theorem Ver.take {H : HashFn} {D : Decomp} {hdr : Hdr} {a : Bytes} (k : Nat) (ha : Ver H D hdr a) : Ver H D hdr (a.take k) :=
  (Ver.take_drop k ha).1

theorem Ver.drop {H : HashFn} {D : Decomp} {hdr : Hdr} {a : Bytes} (k : Nat) (ha : Ver H D hdr a) : Ver H D hdr (a.drop k) :=
  (Ver.take_drop k ha).2

theorem chunkAt_mem (c : Ctx) (k : Nat) (ch : Chunk) (h : chunkAt c k = some ch) : ch ∈ c.hdr.chunks :=
  List.mem_of_getElem? h

/-- the second clause, no current chunk ⇒ nothing pending, is what lets the fresh checksum context at the first entry agree with
`data` -/
def Inv (c : Ctx) : Prop := I1 c ∧ (c.dataIdx = none → c.data = [])

def Verified (H : HashFn) (D : Decomp) (hdr : Hdr) (c : Ctx) (out : Bytes) : Prop :=
  c.hdr = hdr ∧ Inv c ∧ Ver H D hdr out ∧ Ver H D hdr c.dc

def StepOk (H : HashFn) (D : Decomp) (c : Ctx) (s : Step) : Prop := Verified H D c.hdr s.ctx s.out

theorem stepRead_ok (H : HashFn) (D : Decomp) (f : Bytes) (n : Nat) (c : Ctx) (ch : Chunk) (out : Bytes)
    (ki : Nat) (hidx : c.dataIdx = some ki) (hI : I1 c) (ho : Ver H D c.hdr out) (hd : Ver H D c.hdr c.dc) :
    StepOk H D c (stepRead f n c ch out) := by
  have hg : c.chunkHash.getD [] = c.data := by
    rcases hI with h | ⟨h, hd⟩ <;> simp [h, hd]
  refine stepRead_cases f n c ch out (fun rs src _ _ _ => ?_) (fun rs src _ _ _ _ => ?_)
  · exact ⟨rfl, ⟨Or.inl (congrArg some hg), fun h => by rw [hidx] at h; cases h⟩, ho, hd⟩
  · exact ⟨rfl, ⟨Or.inl (by show some (_ ++ src) = some (c.data ++ src); rw [hg]), fun h => by rw [hidx] at h; cases h⟩, ho, hd⟩

/-- the chunk end: only a chunk whose stored bytes — exactly the bytes the decoder was given — match the index checksum, and
which decodes to its declared size, reaches the buffer handed out to callers -/
theorem stepEnd_ok (H : HashFn) (D : Decomp) (c : Ctx) (ki : Nat) (ch : Chunk) (useDict : Bool) (out : Bytes)
    (fin : Bool) (hz : c.hdr.compType ≠ 0) (hI : Inv c) (hm : ch ∈ c.hdr.chunks)
    (ho : Ver H D c.hdr out) (hd : Ver H D c.hdr c.dc) :
    StepOk H D c (stepEnd H D c ki ch useDict out fin) := by
  unfold stepEnd
  cases he : endDchunk H D c ki ch useDict with
  | oom => exact ⟨rfl, hI, ho, hd⟩
  | fail => exact ⟨rfl, hI, ho, Ver.nil _ _ _⟩
  | badSum => exact ⟨rfl, hI, ho, Ver.nil _ _ _⟩
  | ok c2 =>
    obtain ⟨plain, hdec, hv, rfl⟩ := endDchunk_eq_ok.mp he
    obtain ⟨bs, d, hbs, hH, hdig⟩ := validateChunk_eq_one.mp hv
    unfold Decodes at hdec
    rw [if_neg hz] at hdec
    have hdat : bs = c.data := by
      rcases hI.1 with h | ⟨h, _⟩ <;> rw [h] at hbs <;> cases hbs; rfl
    have hg : Good H D c.hdr plain := ⟨ch, hm, c.data, _, d, hdec.2.1, hdec.2.2, hdat ▸ hH, hdig⟩
    have hinv : Inv (endCtx c ki plain) := ⟨Or.inl (by simp [endCtx, hz]), fun _ => by simp [endCtx, hz]⟩
    have hv : Ver H D c.hdr (endCtx c ki plain).dc := Ver.append hd (Ver.piece hg (a := []) (b := []) (by simp))
    show StepOk H D c (.cont (if (endCtx c ki plain).dataIdx.isNone then _ else _) out fin)
    split <;> exact ⟨rfl, hinv, ho, hv⟩

theorem step_ok (H : HashFn) (D : Decomp) (f : Bytes) (n : Nat) (useDict : Bool) (c : Ctx) (out : Bytes)
    (fin : Bool) (hz : c.hdr.compType ≠ 0) (hI : Inv c) (ho : Ver H D c.hdr out) (hd : Ver H D c.hdr c.dc) :
    StepOk H D c (step H D f n useDict c out fin) := by
  refine step_cases H D f n useDict c out fin (fun _ => ⟨rfl, hI, ho, hd⟩) (fun _ => ⟨rfl, hI, ho, hd⟩)
    (fun k _ _ _ => ⟨rfl, hI, Ver.append ho (Ver.take k hd), Ver.drop k hd⟩)
    (fun k _ _ _ => ⟨rfl, hI, Ver.append ho (Ver.take k hd), Ver.drop k hd⟩) (fun _ _ _ => ?_)
  refine stepTail_cases H D f n useDict c out fin (fun _ => ⟨rfl, hI, ho, hd⟩) (fun _ h0 _ => absurd h0 hz)
    (fun _ hi _ => ?_) (fun i _ _ hi _ => ?_) (fun _ _ _ _ => ⟨rfl, hI, ho, hd⟩)
    (fun k ch _ _ _ hc _ => stepEnd_ok H D c k ch useDict out fin hz hI (chunkAt_mem c k ch hc) ho hd)
    (fun _ _ _ _ _ _ _ => ⟨rfl, hI, ho, hd⟩) (fun k ch _ hi _ _ _ => stepRead_ok H D f n c ch out k hi hI.1 ho hd)
  all_goals exact ⟨rfl, ⟨Or.inl (by show some [] = some c.data; rw [hI.2 hi]), fun _ => hI.2 hi⟩, ho, hd⟩

theorem verified_kept (H : HashFn) (D : Decomp) (f : Bytes) (hdr : Hdr) (hz : hdr.compType ≠ 0) :
    Kept H D f (Verified H D hdr) where
  step n ud c out fin := fun ⟨hh, hI, ho, hd⟩ => by subst hh; exact step_ok H D f n ud c out fin hz hI ho hd
  fail _ _ _ _ := fun ⟨hh, hI, _, hd⟩ => ⟨hh, hI, Ver.nil _ _ _, hd⟩
  dict _ _ _ := fun ⟨hh, hI, _, _⟩ => ⟨hh, hI, Ver.nil _ _ _, Ver.nil _ _ _⟩

end Zck.Reader

namespace Zck.C15
open Zck.Format Zck.Reader

/-- what a consumer may do between reads -/
inductive Call where
  | read (n : Nat)      -- zck_read with a buffer of n bytes
  | clearError          -- zck_clear_error
deriving Repr, DecidableEq

/-- a sequence of calls on one context: all bytes written to the caller's buffers, in order
(including whatever a failing call had already copied), and the final context -/
def readCalls (H : HashFn) (D : Decomp) (f : Bytes) : Ctx → List Call → Bytes × Ctx
  | c, [] => ([], c)
  | c, .read n :: ns =>
    let r := compRead H D f c n
    let rest := readCalls H D f r.2 ns
    (r.1.bytes ++ rest.1, rest.2)
  | c, .clearError :: ns => readCalls H D f (clearError c).2 ns

theorem err_sticky (H : HashFn) (D : Decomp) (f : Bytes) (c : Ctx) (n : Nat) (h : c.err = true) :
    compRead H D f c n = (⟨-1, []⟩, c) := by
  unfold compRead; simp [h]

/-- a fatal error cannot be cleared: nothing is ever handed out again -/
theorem readCalls_fatal (H : HashFn) (D : Decomp) (f : Bytes) (c : Ctx) (ns : List Call)
    (hf : c.fatal = true) (h : c.err = true) : (readCalls H D f c ns).1 = [] := by
  induction ns with
  | nil => rfl
  | cons n ns ih =>
    cases n with
    | read n =>
      simp only [readCalls, err_sticky H D f c n h, List.nil_append]
      exact ih
    | clearError =>
      simp only [readCalls, clearError, hf, ↓reduceIte]
      exact ih

theorem clearError_inv (c : Ctx) : (clearError c).2.hdr = c.hdr ∧ (Inv c → Inv (clearError c).2) ∧
    (clearError c).2.dc = c.dc := by
  unfold clearError
  split <;> exact ⟨rfl, id, rfl⟩

theorem calls_release_verified (H : HashFn) (D : Decomp) (f : Bytes) (hdr : Hdr) (hz : hdr.compType ≠ 0) :
    ∀ (ns : List Call) (c : Ctx), c.hdr = hdr → Inv c → Ver H D hdr c.dc →
      Ver H D hdr (readCalls H D f c ns).1
  | [], c, _, _, _ => by simpa [readCalls] using Ver.nil H D hdr
  | .clearError :: ns, c, hh, hI, hd => by
    obtain ⟨k1, k2, k3⟩ := clearError_inv c
    exact calls_release_verified H D f hdr hz ns _ (k1.trans hh) (k2 hI) (k3 ▸ hd)
  | .read n :: ns, c, hh, hI, hd => by
    obtain ⟨a1, a2, a3, a4⟩ := (verified_kept H D f hdr hz).compRead c n ⟨hh, hI, Ver.nil _ _ _, hd⟩
    exact Ver.append a3 (calls_release_verified H D f hdr hz ns _ a1 a2 a4)

/-- after opening a file whose chunks are decoded as a unit, no sequence of reads and error clearings ever returns a byte that
was not decoded from a chunk whose stored bytes match its index checksum (and which has its declared size) -/
theorem C15 (H : HashFn) (D : Decomp) (f : Bytes) (h : Hdr) (hz : h.compType ≠ 0) (ns : List Call) :
    Ver H D h (readCalls H D f (openCtx h) ns).1 :=
  calls_release_verified H D f h hz ns (openCtx h) rfl ⟨Or.inr ⟨rfl, rfl⟩, fun _ => rfl⟩ (Ver.nil H D h)

/-- a chunk end that does not verify ends the call with -1, empties the decoded buffer and leaves the context in a fatal error
state, which `zck_clear_error` refuses to clear: by `readCalls_fatal` no later read yields anything -/
theorem bad_chunk_drops_buffer (H : HashFn) (D : Decomp) (c : Ctx) (ki : Nat) (ch : Chunk) (useDict : Bool)
    (out : Bytes) (fin : Bool) (r : RdOut) (c' : Ctx)
    (hbad : ∀ c2, endDchunk H D c ki ch useDict ≠ .ok c2) (hno : endDchunk H D c ki ch useDict ≠ .oom)
    (h : stepEnd H D c ki ch useDict out fin = .done r c') :
    r.ret = -1 ∧ c'.dc = [] ∧ c'.err = true ∧ c'.fatal = true ∧ (clearError c').1 = false := by
  unfold stepEnd at h
  split at h
  · rename_i ho; exact absurd ho hno
  · simp only [Step.done.injEq] at h; obtain ⟨rfl, rfl⟩ := h; exact ⟨rfl, rfl, rfl, rfl, rfl⟩
  · simp only [Step.done.injEq] at h; obtain ⟨rfl, rfl⟩ := h; exact ⟨rfl, rfl, rfl, rfl, rfl⟩
  · rename_i c2 hok; exact absurd hok (hbad c2)

end Zck.C15
