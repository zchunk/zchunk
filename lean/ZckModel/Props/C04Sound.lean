/-
C04 — soundness of the update procedure after the header is in place (`Update.afterHeader`: scan, copy from the old file, reset,
fetch loop, truncate, validate), for ANY initial target, old file, response of the model's server (any limit, fragment size,
dropped transfer), regex answers and hash function.  One invariant runs through the stages: every chunk marked valid is present
(`AllOk`: its extent lies in the file and hashes to its index checksum).  The scan establishes it (a mark is computed from the
bytes at the chunk's own extent: `Reader.scanLoop_eq`), a copy step (`writeAndVerify_spec`), a transfer and the fetch loop
(C04.lean) and the truncation keep it.  So a run that ends without error and with every chunk marked valid leaves every chunk
present behind the parsed header (`afterHeader_sound`), and such a file IS the server's file B, byte for byte, unless two byte
strings with the same checksum are exhibited (`equal_or_collision`, `update_yields_B`).  That the run does end that way when the
responses are well formed is `C04Complete.lean`.
-/
import ZckModel.Props.C13
import ZckModel.Props.C04
import ZckModel.Props.C08
import ZckModel.Props.C05Complete
import ZckModel.Props.C09Marks

namespace Zck.C04
open Zck.Format Zck.Dl Zck.Copy Zck.C05 Zck.Update Zck.Reader

theorem take_eq_of_extents : ∀ (cs : List Chunk) (n s off : Nat) (f g : Bytes), C13.RunFrom n s cs →
    f.take (off + s) = g.take (off + s) →
    (∀ c ∈ cs, (f.drop (off + c.start)).take c.compLen = (g.drop (off + c.start)).take c.compLen) →
    (∀ c ∈ cs, off + c.start + c.compLen ≤ f.length ∧ off + c.start + c.compLen ≤ g.length) →
    f.take (off + s + C13.sumLen cs) = g.take (off + s + C13.sumLen cs)
  | [], _, _, _, _, _, _, h, _, _ => by simpa [C13.sumLen] using h
  | c :: rest, n, s, off, f, g, hr, hpre, hext, hlen => by
    have hc := hext c List.mem_cons_self
    rw [hr.2.1] at hc
    have hstep : f.take (off + s + c.compLen) = g.take (off + s + c.compLen) := by
      rw [List.take_add, List.take_add (l := g), hpre, hc]
    have := take_eq_of_extents rest (n + 1) (s + c.compLen) off f g hr.2.2 (by rw [← Nat.add_assoc]; exact hstep)
      (fun x hx => hext x (List.mem_cons_of_mem _ hx)) (fun x hx => hlen x (List.mem_cons_of_mem _ hx))
    simp only [C13.sumLen]
    have e : off + s + (c.compLen + C13.sumLen rest) = off + (s + c.compLen) + C13.sumLen rest := by omega
    rw [e]
    exact this

/-- every chunk with stored bytes is present: its extent lies in the file and hashes to its index checksum -/
def AllPresent (e : Env) (f : Bytes) : Prop :=
  ∀ (k : Nat) (tc : Chunk), e.hdr.chunks[k]? = some tc → tc.compLen ≠ 0 → ChunkOk e f tc

/-- two files of the length the header prescribes, with the same bytes before the data and every chunk present in both, are
byte-identical — or two different byte strings with the same chunk checksum have been found -/
theorem equal_or_collision (e : Env) (f g : Bytes) (hrun : C13.RunFrom 0 0 e.hdr.chunks)
    (hhdr : f.take e.dataOff = g.take e.dataOff)
    (hlf : f.length = e.dataOff + C13.sumLen e.hdr.chunks) (hlg : g.length = e.dataOff + C13.sumLen e.hdr.chunks)
    (hf : AllPresent e f) (hg : AllPresent e g) : f = g ∨ Collision e.H e.hdr.chunkHashType := by
  by_cases hall : ∀ c ∈ e.hdr.chunks, (f.drop (e.dataOff + c.start)).take c.compLen = (g.drop (e.dataOff + c.start)).take c.compLen
  · left
    -- both files end where the data ends, and every extent of a running index ends inside the data
    have hlen : ∀ c ∈ e.hdr.chunks, e.dataOff + c.start + c.compLen ≤ f.length ∧ e.dataOff + c.start + c.compLen ≤ g.length := by
      intro c hc
      obtain ⟨k, hk⟩ := List.mem_iff_getElem?.mp hc
      have := C13.run_end_le hrun k c hk
      omega
    have := take_eq_of_extents e.hdr.chunks 0 0 e.dataOff f g hrun (by simpa using hhdr) hall hlen
    simp only [Nat.add_zero] at this
    rw [← hlf, List.take_length] at this
    rw [this, hlf, ← hlg, List.take_length]
  · right
    have ⟨c, hcx⟩ := Classical.not_forall.mp hall
    have ⟨hc, hne⟩ := Classical.not_imp.mp hcx
    obtain ⟨k, hk⟩ := List.mem_iff_getElem?.mp hc
    have hz : c.compLen ≠ 0 := by
      intro h0; apply hne; simp [h0]
    have h1 := hf k c hk hz
    have h2 := hg k c hk hz
    unfold ChunkOk at h1 h2
    rw [if_neg hz] at h1 h2
    exact ⟨_, _, hne, by rw [h1.2, h2.2], by rw [h1.2]; rfl⟩

/-- the chunk loop of `validate_checksums`; the read position is either exact or already at the end of a truncated file, where
nothing with stored bytes matches -/
theorem scanLoop_sound (H : HashFn) (f : Bytes) (hdr : Hdr) (useFull : Bool) :
    ∀ (cs : List Chunk) (k s pos : Nat) (full : Option Bytes) (valid : List Int) (allGood : Bool),
    C13.RunFrom k s cs → (pos = hdr.lead + hdr.headerLen + s ∨ f.length ≤ pos) →
    (k = 0 → ∀ c, cs.head? = some c → c.len = 0 → c.compLen = 0) →
    (∀ j, k ≤ j → valid.getD j 0 ≠ 1) →
    ∀ (i : Nat) (tc : Chunk), cs[i]? = some tc → tc.compLen ≠ 0 →
      (scanLoop H f hdr useFull cs k pos full valid allGood).2.2.1.getD (k + i) 0 = 1 →
      Present H hdr.chunkHashType (hdr.lead + hdr.headerLen) f tc
  | cs, k, s, pos, full, valid, allGood, hr, hpos, hdict, hnone, i, tc, hi, hz, hv => by
    rw [scanLoop_eq, List.getD_eq_getElem?_getD, setMarks_getElem?] at hv
    split at hv
    · rename_i hc
      -- entry `k + i` was looked at: its mark is computed from the bytes behind those of the entries before it
      have hdet : hdr.detached = true → i = 0 := fun hd => by
        have := scanMarks_length_detached H f hdr hd cs k pos; omega
      rw [Nat.add_sub_cancel_left, scanMarks_stored H f hdr cs k pos i tc hdict hi hdet hz] at hv
      exact markAt_run_present H f hdr _ pos hr hi hz hpos hv
    · exact absurd (by rw [List.getD_eq_getElem?_getD]; exact hv) (hnone (k + i) (by omega))

/-- a chunk (with stored bytes) that `zck_find_valid_chunks` marks valid is present in the file -/
theorem validateChecksums_sound (H : HashFn) (f : Bytes) (c : Ctx) (hrun : C13.RunFrom 0 0 c.hdr.chunks)
    (hdict : ∀ d, c.hdr.chunks.head? = some d → d.len = 0 → d.compLen = 0) (h0 : ∀ j, c.valid.getD j 0 ≠ 1)
    (k : Nat) (tc : Chunk) (hk : c.hdr.chunks[k]? = some tc) (hz : tc.compLen ≠ 0)
    (hv : (validateChecksums H f c).2.valid.getD k 0 = 1) :
    Present H c.hdr.chunkHashType (c.hdr.lead + c.hdr.headerLen) f tc := by
  have key := scanLoop_sound H f c.hdr (decide (¬ flag4 c = true)) c.hdr.chunks 0 0 (Reader.dataOff c) (some []) c.valid true hrun
    (Or.inl (by simp [Reader.dataOff])) (fun _ => hdict) (fun j _ => h0 j) k tc hk hz
  rw [Nat.zero_add, scanLoop_eq] at key
  by_cases he : c.err = true
  · rw [validateChecksums_err H f c he] at hv
    exact absurd hv (h0 k)
  rw [validateChecksums_valid H f c (by simpa using he)] at hv
  split at hv
  · -- the data checksum failed: every mark is -1
    rw [List.getD_eq_getElem?_getD, List.getElem?_map] at hv
    cases hx : (setMarks c.valid 0 (scanOf H f c.hdr))[k]? <;> rw [hx] at hv <;> simp at hv
  · exact key hv

theorem present_chunkOk (e : Env) (f : Bytes) (tc : Chunk) (hz : tc.compLen ≠ 0) :
    Present e.H e.hdr.chunkHashType (e.hdr.lead + e.hdr.headerLen) f tc ↔ ChunkOk e f tc := by
  unfold Present ChunkOk Env.dataOff
  rw [if_neg hz]

theorem writeAndVerify_sound (e : Env) (hd : Disj e) (srcF : Bytes) (src : Hdr) (t : Tgt) (k : Nat) (sc tc : Chunk)
    (htype : src.chunkHashType = e.hdr.chunkHashType)
    (hk : e.hdr.chunks[k]? = some tc) (hsz : sc.compLen = tc.compLen) (hdg : sc.digest = tc.digest)
    (hnv : t.valid.getD k 0 ≠ 1) (h : AllOk e t.f t.valid) :
    AllOk e (writeAndVerify e.H srcF src e.hdr t k sc tc).f (writeAndVerify e.H srcF src e.hdr t k sc tc).valid := by
  obtain ⟨hout, hlen, hmarks⟩ := writeAndVerify_spec e.H srcF src e.hdr t k sc tc
  rw [hsz, Nat.max_self] at hout
  intro j tj htj hz hv
  by_cases hj : j = k
  · -- the chunk just copied: it is marked 1 only when its extent was read back and hashed
    subst hj
    cases hk.symm.trans htj
    rcases hmarks with hm | hm | ⟨_, data, hdl, hH, hrb⟩
    · rw [hm] at hv; exact absurd hv hnv
    · rw [hm, getD_set] at hv
      split at hv
      · exact absurd hv (by decide)
      · exact absurd hv hnv
    · rw [hdl, hsz] at hrb
      have := fileRead_full_iff.mp ((congrArg List.length hrb).trans (hdl.trans hsz))
      unfold ChunkOk
      rw [if_neg hz]
      exact ⟨by have : Copy.dataOff e.hdr = e.dataOff := rfl; omega, by rw [← htype, ← hdg, ← hH]; exact congrArg _ hrb⟩
  · -- another chunk: its mark is as before, and the step wrote inside the extent of `k` only
    rw [writeAndVerify_getD_ne _ _ _ _ _ _ _ _ j hj] at hv
    refine chunkOk_of_getD e t.f _ tj (Or.inl hlen) (fun i h1 h2 => hout i ?_) (h j tj htj hz hv)
    have := hd j k tj tc htj hk hj
    have : Copy.dataOff e.hdr = e.dataOff := rfl
    omega

/-- `zck_copy_chunks` keeps: valid ⇒ present -/
theorem copyChunks_sound (e : Env) (hd : Disj e) (srcF : Bytes) (src : Hdr) (htype : src.chunkHashType = e.hdr.chunkHashType)
    (t : Tgt) (h : AllOk e t.f t.valid) :
    AllOk e (copyChunks e.H srcF src e.hdr t).f (copyChunks e.H srcF src e.hdr t).valid :=
  copyChunks_induct e.H srcF src e.hdr (fun t => AllOk e t.f t.valid) t
    (fun tc n sc t' hk hnv hfind _ hsz hP =>
      writeAndVerify_sound e hd srcF src t' n sc tc htype hk hsz (C08.used_only_if_equal src tc sc hfind).1 hnv hP) h

theorem copy_header (H : HashFn) (srcF : Bytes) (src tgtH : Hdr) (t : Tgt) (i : Nat) (hi : i < Copy.dataOff tgtH) :
    (copyChunks H srcF src tgtH t).f.getD i 0 = t.f.getD i 0 :=
  copyChunks_induct H srcF src tgtH (fun t' => t'.f.getD i 0 = t.f.getD i 0) t
    (fun tc n sc t' _ _ _ _ _ hP => by rw [(writeAndVerify_spec H srcF src tgtH t' n sc tc).1 i (Or.inl (by omega)), hP]) rfl

theorem allValid_spec (valid : List Int) (n : Nat) (h : (valid.length == n && valid.all (· == 1)) = true) :
    ∀ k, k < n → valid.getD k 0 = 1 := by
  rw [Bool.and_eq_true, beq_iff_eq] at h
  exact fun k hk => (all_one_iff valid).mp h.2 k (h.1 ▸ hk)

theorem getD_resetFailed (v : List Int) (k : Nat) : (resetFailed v).getD k 0 = if v.getD k 0 = -1 then 0 else v.getD k 0 := by
  unfold resetFailed
  simp only [List.getD_eq_getElem?_getD, List.getElem?_map]
  cases v[k]? with
  | none => rfl
  | some x => simp only [Option.map_some, Option.getD_some, beq_iff_eq]

theorem resetFailed_eq_one (v : List Int) (k : Nat) : (resetFailed v).getD k 0 = 1 ↔ v.getD k 0 = 1 := by
  rw [getD_resetFailed]
  split
  · rename_i h; rw [h]; decide
  · rfl

/-- `finish` (ftruncate, final validation): the truncation is at the end of the data, so every present chunk stays present -/
theorem finish_sound (H : HashFn) (rx : Rx) (th : Hdr) (o : Out) (file : Bytes) (valid : List Int)
    (hrun : C13.RunFrom 0 0 th.chunks) (hdl : th.dataLen = C13.sumLen th.chunks)
    (hok : AllOk (envOf H rx th []) file valid)
    (hall : (finish H th o file valid).allValid = true) :
    (finish H th o file valid).file.length = th.lead + th.headerLen + th.dataLen ∧
    (∀ i, i < th.lead + th.headerLen → (finish H th o file valid).file.getD i 0 = file.getD i 0) ∧
    AllPresent (envOf H rx th []) (finish H th o file valid).file := by
  unfold finish at hall ⊢
  -- `truncateTo n file` is `padTo file n`
  refine ⟨length_padTo _ _, fun i hi => getD_padTo _ _ i (by omega), ?_⟩
  intro k tc hk hz
  have hv := allValid_spec valid th.chunks.length hall k (lt_length_of_getElem? hk)
  -- every extent of a running index ends inside the data
  have hend : (envOf H rx th []).dataOff + tc.start + tc.compLen ≤ th.lead + th.headerLen + th.dataLen := by
    have := C13.run_end_le hrun k tc hk
    have : (envOf H rx th []).dataOff = th.lead + th.headerLen := rfl
    omega
  exact chunkOk_of_getD _ file _ tc (Or.inr (length_padTo file _ ▸ hend))
    (fun i _ hi => getD_padTo _ _ i (by omega)) (hok k tc hk hz hv)

/-- the hypotheses about a parsed target header that the soundness of the procedure needs -/
structure HdrOk (H : HashFn) (t2 : Bytes) (th : Hdr) : Prop where
  opened : Header.openFile H t2 = .ok th
  small  : th.lead + th.headerLen ≤ 2^63 - 1
  dict   : ∀ d, th.chunks.head? = some d → d.len = 0 → d.compLen = 0     -- an empty dictionary entry has no stored bytes

theorem copyFrom_cases (H : HashFn) (A : Option Bytes) (th : Hdr) (t : Tgt) :
    copyFrom H A th t = t ∨
    ∃ a ah, A = some a ∧ Header.openFile H a = .ok ah ∧ copyFrom H A th t = copyChunks H a ah th t := by
  unfold copyFrom
  cases A with
  | none => exact Or.inl rfl
  | some a =>
    dsimp only
    split
    · rename_i ah hop
      exact Or.inr ⟨a, ah, rfl, hop, rfl⟩
    · exact Or.inl rfl

theorem copyFrom_induct (H : HashFn) (A : Option Bytes) (th : Hdr) (P : Tgt → Prop) (t : Tgt)
    (step : ∀ a ah tc n sc t, A = some a → Header.openFile H a = .ok ah → th.chunks[n]? = some tc → t.valid.getD n 0 ≠ 1 →
      findSrc ah tc.digest = some sc → sc.compLen = tc.compLen → P t → P (writeAndVerify H a ah th t n sc tc))
    (h : P t) : P (copyFrom H A th t) := by
  rcases copyFrom_cases H A th t with h' | ⟨a, ah, ha, hop, h'⟩ <;> rw [h']
  · exact h
  · exact copyChunks_induct H a ah th P t (fun tc n sc t' hk hnv hf _ hsz => step a ah tc n sc t' ha hop hk hnv hf hsz) h

theorem copyFrom_sound (H : HashFn) (rx : Rx) (A : Option Bytes) (th : Hdr) (hd : Disj (envOf H rx th []))
    (hA : ∀ a ah, A = some a → Header.openFile H a = .ok ah → ah.chunkHashType = th.chunkHashType)
    (t : Tgt) (h : AllOk (envOf H rx th []) t.f t.valid) :
    AllOk (envOf H rx th []) (copyFrom H A th t).f (copyFrom H A th t).valid ∧
    (∀ i, i < th.lead + th.headerLen → (copyFrom H A th t).f.getD i 0 = t.f.getD i 0) := by
  rcases copyFrom_cases H A th t with h' | ⟨a, ah, ha, hop, h'⟩ <;> rw [h']
  · exact ⟨h, fun _ _ => rfl⟩
  · exact ⟨copyChunks_sound (envOf H rx th []) hd a ah (hA a ah ha hop) t h, fun i hi => copy_header H a ah th t i hi⟩

/-- what the scan of the freshly opened target marks valid is present: the marks the procedure starts from are `AllOk` -/
theorem scan_allOk (H : HashFn) (rx : Rx) (t2 : Bytes) (th : Hdr) (hh : HdrOk H t2 th) (hrun : C13.RunFrom 0 0 th.chunks) :
    AllOk (envOf H rx th []) t2 (Reader.validateChecksums H t2 (Reader.openCtx th)).2.valid := by
  intro k tc hk hz hv
  have := validateChecksums_sound H t2 (Reader.openCtx th) hrun hh.dict (fun j => by rw [getD_openCtx_valid]; decide) k tc hk hz hv
  exact (present_chunkOk (envOf H rx th []) t2 tc hz).mp this

/-- C04, soundness of the procedure after the header is in place: for ANY old file, server behaviour (the model's server with any
limit, fragment size, dropped transfer), regex answers and hash function -/
theorem afterHeader_sound (H : HashFn) (rx : Rx) (A : Option Bytes) (B : Bytes) (limit : Int) (frag : Nat)
    (drop : Option (Nat × Nat)) (o : Out) (t2 : Bytes) (th : Hdr) (hh : HdrOk H t2 th)
    (hA : ∀ a ah, A = some a → Header.openFile H a = .ok ah → ah.chunkHashType = th.chunkHashType) :
    let out := afterHeader H rx A B limit frag drop o t2 th
    out.err = none → out.allValid = true →
    out.file.length = th.lead + th.headerLen + th.dataLen ∧
    (∀ i, i < th.lead + th.headerLen → out.file.getD i 0 = t2.getD i 0) ∧
    AllPresent (envOf H rx th []) out.file := by
  intro out herr hall
  have hs := C13.open_sound H t2 th hh.opened hh.small
  have hrun := hs.2.2.1
  have hdl := hs.2.2.2.1
  have hd : Disj (envOf H rx th []) := disj_of_runFrom _ hrun
  have hscan := scan_allOk H rx t2 th hh hrun
  -- the procedure, branch by branch: scan, copy, reset, loop and finish each keep `AllOk`
  have hout : out = afterHeader H rx A B limit frag drop o t2 th := rfl
  unfold afterHeader at hout
  dsimp only at hout
  by_cases h0 : (Reader.validateChecksums H t2 (Reader.openCtx th)).1 = 0
  · rw [if_pos h0] at hout
    rw [hout] at herr; cases herr
  rw [if_neg h0] at hout
  by_cases h1 : (Reader.validateChecksums H t2 (Reader.openCtx th)).1 = 1
  · rw [if_pos h1] at hout
    rw [hout] at hall ⊢
    exact finish_sound H rx th _ t2 _ hrun hdl hscan hall
  rw [if_neg h1] at hout
  have hc := copyFrom_sound H rx A th hd hA ⟨t2, (Reader.validateChecksums H t2 (Reader.openCtx th)).2.valid⟩ hscan
  generalize copyFrom H A th ⟨t2, (Reader.validateChecksums H t2 (Reader.openCtx th)).2.valid⟩ = t at hc hout
  have hreset : AllOk (envOf H rx th []) t.f (resetFailed t.valid) :=
    fun k tc hk hz hv => hc.1 k tc hk hz ((resetFailed_eq_one _ _).mp hv)
  have hl := loop_sound H rx B th limit frag drop hd (th.chunks.length + 3) t.f (resetFailed t.valid) [] 0 hreset
  generalize Update.loop H rx B th limit frag drop (th.chunks.length + 3) t.f (resetFailed t.valid) [] 0 = r at hl hout
  cases he : r.2.2.2.2 with
  | some x => rw [he] at hout; rw [hout] at herr; cases herr
  | none =>
    rw [he] at hout
    rw [hout] at hall ⊢
    have hf := finish_sound H rx th _ r.1 r.2.1 hrun hdl hl.1 hall
    exact ⟨hf.1, fun i hi => by rw [hf.2.1 i hi, hl.2.2.2 i hi, hc.2 i hi], hf.2.2⟩

/-- C04, soundness: if moreover the file `B` on the server is itself a file with that header, a run that ends without error and
with every chunk valid leaves the target BYTE-IDENTICAL to `B` — or two different byte strings with the same chunk checksum exist -/
theorem update_yields_B (H : HashFn) (rx : Rx) (A : Option Bytes) (B : Bytes) (limit : Int) (frag : Nat)
    (drop : Option (Nat × Nat)) (o : Out) (t2 : Bytes) (th : Hdr) (hh : HdrOk H t2 th)
    (hA : ∀ a ah, A = some a → Header.openFile H a = .ok ah → ah.chunkHashType = th.chunkHashType)
    (hBlen : B.length = th.lead + th.headerLen + th.dataLen)
    (hBhdr : ∀ i, i < th.lead + th.headerLen → B.getD i 0 = t2.getD i 0)
    (hBok : AllPresent (envOf H rx th []) B) :
    let out := afterHeader H rx A B limit frag drop o t2 th
    out.err = none → out.allValid = true → out.file = B ∨ Collision H th.chunkHashType := by
  intro out herr hall
  obtain ⟨h1, h2, h3⟩ := afterHeader_sound H rx A B limit frag drop o t2 th hh hA herr hall
  have hs := C13.open_sound H t2 th hh.opened hh.small
  have hpre : out.file.take (envOf H rx th []).dataOff = B.take (envOf H rx th []).dataOff := by
    have := Reader.fileRead_congr B out.file 0 (th.lead + th.headerLen)
      (by rw [hBlen]; exact Nat.le_add_right _ _) (by rw [h1]; exact Nat.le_add_right _ _)
      (fun i _ hi => by rw [Nat.zero_add] at hi; rw [h2 i hi, hBhdr i hi])
    show out.file.take (th.lead + th.headerLen) = B.take (th.lead + th.headerLen)
    simpa [Reader.fileRead] using this
  exact equal_or_collision (envOf H rx th []) out.file B hs.2.2.1 hpre
    (by rw [h1, hs.2.2.2.1]; rfl) (by rw [hBlen, hs.2.2.2.1]; rfl) h3 hBok

/-- why the theorems above speak of `afterHeader`: a run of `update` that reports no error is one -/
theorem update_ok_shape (H : HashFn) (rx : Rx) (A : Option Bytes) (B tgt0 : Bytes) (limit : Int) (frag : Nat)
    (drop : Option (Nat × Nat)) (h : (update H rx A B tgt0 limit frag drop).err = none) :
    ∃ o t2 th, Header.openFile H t2 = .ok th ∧ update H rx A B tgt0 limit frag drop = afterHeader H rx A B limit frag drop o t2 th := by
  unfold update at h ⊢
  dsimp only at h ⊢
  cases hl : Header.readLead {} (writeAt tgt0 0 (B.take Zck.Gen.MIN_DOWNLOAD_SIZE)) with
  | ok l =>
    rw [hl] at h
    dsimp only at h ⊢
    by_cases hlen : B.length < (if l.leadSize + l.headerLen > Zck.Gen.MIN_DOWNLOAD_SIZE then l.leadSize + l.headerLen else 0)
    · rw [if_pos hlen] at h; simp at h
    · rw [if_neg hlen] at h ⊢
      cases hop : Header.openFile H (fetchRest B (writeAt tgt0 0 (B.take Zck.Gen.MIN_DOWNLOAD_SIZE)) (l.leadSize + l.headerLen)).1 with
      | ok th => exact ⟨_, _, th, hop, rfl⟩
      | err => rw [hop] at h; simp at h
      | oob _ => rw [hop] at h; simp at h
  | err => rw [hl] at h; simp at h
  | oob _ => rw [hl] at h; simp at h

end Zck.C04
