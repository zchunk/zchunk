/-
C01 — the whole file `zck_close` writes, for ANY backend (`Encode.closeFile`: the compressor is a parameter `C`), reads back as the
chunks it was made of, under the one assumption a compressor has to meet: the backend's decompressor `D` inverts it
(and it does not turn content into nothing).  `closeFile` is compared with the implementation's output on every WRITE case
(compressed ones too: `C` = the table of stored forms libzstd produced in that run).  The "none" backend's own model
(`Encode.closeFileNone`) is `closeFile` at compression type 0 without the uncompressed-source flag (`closeFile_none`), so its
round trip is the general one.
What an index entry says of its chunk (`entryOf_spec`) and what the stored form is (`sto_spec`) make the entry describe the chunk
(`entryOf_wok`); `closeFile_entries` has this for every chunk of a close, in the form `written_WF` asks for.
-/
import ZckModel.Props.C01Written

namespace Zck.EncP
open Zck.Format Zck.Reader Zck.Encode Zck.Header Zck.Stream

section
variable (H : Format.HashFn) (D : Decomp)

theorem entryOf_spec (hH : HashLen H) (cht cs : Nat) (hcs : hsize cht = some cs) (u : Bool) (st pl upl : Bytes) (c : Chunk)
    (h : entryOf H cht u st pl upl = some c) :
    c.len = pl.length ∧ c.digest.length = cs ∧ (u = true → ∃ ud, c.udigest = some ud ∧ ud.length = cs) ∧
    (pl.length ≠ 0 → c.compLen = st.length ∧ H cht st = some c.digest) ∧ (pl.length = 0 → c.compLen = 0 ∧ c.digest = zeros cs) := by
  have hdl : ∀ bs d, H cht bs = some d → d.length = cs := fun bs d hd => Option.some.inj ((hH cht bs d hd).symm.trans hcs)
  unfold entryOf at h
  by_cases h0 : pl.length = 0
  · rw [if_pos h0, hcs] at h
    simp only [Option.map_some, Option.some.injEq] at h
    subst h
    refine ⟨h0.symm, length_zeros cs, fun hu => ?_, fun hx => absurd h0 hx, fun _ => ⟨rfl, rfl⟩⟩
    subst hu
    exact ⟨zeros cs, rfl, length_zeros cs⟩
  · rw [if_neg h0] at h
    cases hd : H cht st with
    | none => rw [hd] at h; cases h
    | some d =>
      cases hx : (if u then (H cht upl).map some else some none) with
      | none => rw [hd, hx] at h; cases h
      | some o =>
        rw [hd, hx] at h
        obtain rfl := Option.some.inj h
        refine ⟨rfl, hdl st d hd, fun hu => ?_, fun _ => ⟨rfl, rfl⟩, fun hz => absurd hz h0⟩
        -- with the flag the second checksum is that of the content
        rw [hu, if_pos rfl] at hx
        obtain ⟨ud, hud, rfl⟩ := Option.map_eq_some_iff.mp hx
        exact ⟨ud, rfl, hdl upl ud hud⟩

theorem entFits_gen (u : Bool) (cs hdrTotal : Nat) : ∀ (ents : List Chunk) (idxLoc : Nat),
    (∀ c ∈ ents, c.digest.length = cs ∧ (u = true → ∃ ud, c.udigest = some ud ∧ ud.length = cs) ∧ c.len ≤ 2^63 - 1) →
    idxLoc + C13.sumLen ents + hdrTotal ≤ 2^63 - 1 → EntFits u cs hdrTotal idxLoc ents
  | [], _, _, _ => trivial
  | c :: rest, idxLoc, hall, hb => by
    obtain ⟨h1, h2, h3⟩ := hall c List.mem_cons_self
    have hb' : idxLoc + (c.compLen + C13.sumLen rest) + hdrTotal ≤ 2^63 - 1 := hb
    exact ⟨h1, h2, by omega, by omega, h3,
      entFits_gen u cs hdrTotal rest _ (fun c' hc' => hall c' (List.mem_cons_of_mem _ hc')) (by omega)⟩

theorem sto_spec (C : Option Bytes → Bytes → Bytes) (ct : Nat)
    (hC : ct ≠ 0 → ∀ d p, p ≠ [] → D (C d p) d = some p ∧ C d p ≠ []) (d : Option Bytes) (p : Bytes) :
    (p.length = 0 → sto C ct d p = []) ∧
    (p.length ≠ 0 → (sto C ct d p).length ≠ 0 ∧ (if ct = 0 then sto C ct d p = p else D (sto C ct d p) d = some p)) := by
  unfold sto
  refine ⟨fun h => by rw [if_pos h], fun hp => ?_⟩
  rw [if_neg hp]
  by_cases hc0 : ct = 0
  · rw [if_pos hc0, if_pos hc0]; exact ⟨hp, rfl⟩
  · rw [if_neg hc0, if_neg hc0]
    obtain ⟨a, b⟩ := hC hc0 d p (fun hx => hp (by rw [hx]; rfl))
    exact ⟨fun hx => b (List.eq_nil_of_length_eq_zero hx), a⟩

theorem entryOf_wok (C : Option Bytes → Bytes → Bytes) (cht ct cs : Nat) (u : Bool)
    (hC : ct ≠ 0 → ∀ d p, p ≠ [] → D (C d p) d = some p ∧ C d p ≠ []) (hcs : hsize cht = some cs) (hH : HashLen H)
    (d : Option Bytes) (p upl : Bytes) (c : Chunk) (h : entryOf H cht u (sto C ct d p) p upl = some c) :
    (c.compLen = (sto C ct d p).length ∧ c.len = p.length) ∧
    (c.digest.length = cs ∧ (u = true → ∃ ud, c.udigest = some ud ∧ ud.length = cs)) ∧
    (p.length ≠ 0 → WOk H D cht ct d ⟨c, sto C ct d p, p⟩) := by
  obtain ⟨e1, e2, e3, e4, e5⟩ := entryOf_spec H hH cht cs hcs u _ _ _ c h
  obtain ⟨s0, s1⟩ := sto_spec D C ct hC d p
  by_cases h0 : p.length = 0
  · exact ⟨⟨by rw [(e5 h0).1, s0 h0]; rfl, e1⟩, ⟨e2, e3⟩, fun hn => absurd h0 hn⟩
  · obtain ⟨a, b⟩ := e4 h0
    obtain ⟨n0, dec⟩ := s1 h0
    exact ⟨⟨a, e1⟩, ⟨e2, e3⟩, fun _ => ⟨a, e1, ⟨c.digest, b, if_neg (by rw [a]; exact n0)⟩, dec⟩⟩

/-- `ws`: the chunks of a close, the dictionary first, each with its stored form and its entry -/
theorem closeFile_entries (C : Option Bytes → Bytes → Bytes) (cht ct cs : Nat) (u : Bool) (dict : Bytes) (chunks : List Bytes)
    (ents : List Chunk) (hC : ct ≠ 0 → ∀ d p, p ≠ [] → D (C d p) d = some p ∧ C d p ≠ []) (hcs : hsize cht = some cs)
    (hH : HashLen H) (hne : ∀ p ∈ chunks, p ≠ [])
    (hm : (storedPairs C ct dict chunks).mapM (fun (x : Bytes × Bytes × Bytes) => entryOf H cht u x.1 x.2.1 x.2.2) = some ents) :
    ∃ ws : List WC, ws.map (·.c) = ents ∧ ws.map (·.st) = (storedPairs C ct dict chunks).map (·.1) ∧
      ws.map (·.pl) = dict :: chunks ∧
      (∀ w ∈ ws, (w.c.compLen = w.st.length ∧ w.c.len = w.pl.length) ∧
        w.c.digest.length = cs ∧ (u = true → ∃ ud, w.c.udigest = some ud ∧ ud.length = cs)) ∧
      (∀ w, ws.head? = some w → (w.c.compLen = 0 ∧ w.c.len = 0) ∨ WOk H D cht ct none w) ∧
      (∀ w ∈ ws.tail, WOk H D cht ct (dictOfHead ws) w) := by
  obtain ⟨hel, hent⟩ := mapM_zip _ _ _ hm
  unfold storedPairs at hel hent ⊢
  generalize hdD : (if dict.length = 0 then none else some dict) = dD at hel hent ⊢
  cases ents with
  | nil => cases hel
  | cons c0 cs' =>
    have hel' : cs'.length = chunks.length := by rw [← List.length_map (as := chunks)]; exact Nat.succ.inj hel
    rw [List.zip_cons_cons, List.zip_map_left] at hent
    obtain ⟨a0, b0, k0⟩ := entryOf_wok H D C cht ct cs u hC hcs hH none dict [] c0 (hent _ List.mem_cons_self)
    have htl : ∀ z ∈ chunks.zip cs', _ := fun z hz => entryOf_wok H D C cht ct cs u hC hcs hH dD z.1 z.1 z.2
      (hent _ (List.mem_cons_of_mem _ (List.mem_map_of_mem hz)))
    refine ⟨⟨c0, sto C ct none dict, dict⟩ :: (chunks.zip cs').map (fun z => ⟨z.2, sto C ct dD z.1, z.1⟩), ?_, ?_, ?_, ?_, ?_, ?_⟩
    · rw [List.map_cons, List.map_map]; exact congrArg _ (List.map_snd_zip (Nat.le_of_eq hel'))
    · rw [List.map_cons, List.map_cons, List.map_map, List.map_map]
      exact congrArg _ ((List.map_map (f := Prod.fst) (g := sto C ct dD)).symm.trans
        (congrArg _ (List.map_fst_zip (Nat.le_of_eq hel'.symm))))
    · rw [List.map_cons, List.map_map]; exact congrArg _ (List.map_fst_zip (Nat.le_of_eq hel'.symm))
    · intro w hw
      rcases List.mem_cons.mp hw with rfl | hw
      · exact ⟨a0, b0⟩
      · obtain ⟨z, hz, rfl⟩ := List.mem_map.mp hw
        exact ⟨(htl z hz).1, (htl z hz).2.1⟩
    · intro w hw
      obtain rfl := Option.some.inj hw
      by_cases h0 : dict.length = 0
      · exact Or.inl ⟨by rw [a0.1, (sto_spec D C ct hC none dict).1 h0]; rfl, by rw [a0.2, h0]⟩
      · exact Or.inr (k0 h0)
    · intro w hw
      obtain ⟨z, hz, rfl⟩ := List.mem_map.mp hw
      show WOk H D cht ct (if dict.length = 0 then none else some dict) _
      rw [hdD]
      exact (htl z hz).2.2 fun h0 => hne z.1 (List.of_mem_zip hz).1 (List.eq_nil_of_length_eq_zero h0)

/-- what `closeFile = some f` says: the entries, the data checksum and the header checksum exist, and `f` is the serialised header
followed by the stored bytes -/
theorem closeFile_eq_some {C : Option Bytes → Bytes → Bytes} {ht cht ct : Nat} {u : Bool} {dict : Bytes} {chunks : List Bytes}
    {f : Bytes} (hf : closeFile H C ht cht ct u dict chunks = some f) :
    ∃ ents dd dg,
      (storedPairs C ct dict chunks).mapM (fun (x : Bytes × Bytes × Bytes) => entryOf H cht u x.1 x.2.1 x.2.2) = some ents ∧
      (if u then (hsize ht).map zeros else H ht ((storedPairs C ct dict chunks).map (·.1)).flatten) = some dd ∧
      H ht (encLead0 ⟨ht, cht, if u then 4 else 0, ct, dd, ents⟩ ++ encBody ⟨ht, cht, if u then 4 else 0, ct, dd, ents⟩) = some dg ∧
      f = encLead0 ⟨ht, cht, if u then 4 else 0, ct, dd, ents⟩ ++ dg ++ encBody ⟨ht, cht, if u then 4 else 0, ct, dd, ents⟩ ++
        ((storedPairs C ct dict chunks).map (·.1)).flatten := by
  unfold closeFile at hf
  simp only at hf
  cases hm : (storedPairs C ct dict chunks).mapM (fun (x : Bytes × Bytes × Bytes) => entryOf H cht u x.1 x.2.1 x.2.2) with
  | none => rw [hm] at hf; cases hf
  | some ents =>
    cases hdd : (if u then (hsize ht).map zeros else H ht ((storedPairs C ct dict chunks).map (·.1)).flatten) with
    | none => rw [hm, hdd] at hf; cases hf
    | some dd =>
      rw [hm, hdd] at hf
      unfold header at hf
      cases hdg : H ht (encLead0 ⟨ht, cht, if u then 4 else 0, ct, dd, ents⟩ ++ encBody ⟨ht, cht, if u then 4 else 0, ct, dd, ents⟩) with
      | none => simp only [hdg] at hf; cases hf
      | some dg =>
        simp only [hdg, Option.map_some, Option.some.injEq] at hf
        exact ⟨ents, dd, dg, rfl, rfl, hdg, hf.symm⟩

theorem dataDigest_length {ht ds : Nat} {u : Bool} {bs dd : Bytes} (hds : hsize ht = some ds) (hH : HashLen H)
    (h : (if u then (hsize ht).map zeros else H ht bs) = some dd) : dd.length = ds := by
  cases u with
  | true =>
    rw [if_pos rfl, hds] at h
    rw [← Option.some.inj h]; exact length_zeros ds
  | false =>
    rw [if_neg Bool.false_ne_true] at h
    exact (Option.some.inj ((hH _ _ _ h).symm.trans hds))

theorem le_of_lt_allocLimit {n : Nat} (h : n < allocLimit) : n ≤ 2^63 - 1 :=
  Nat.le_trans (Nat.le_of_lt h) (by decide)

/-- the file the model of `zck_close` produces is well-formed for the reader, and its content is the data chunks concatenated -/
theorem closeFile_wf (C : Option Bytes → Bytes → Bytes) (ht cht ct ds cs : Nat) (u : Bool) (dict : Bytes) (chunks : List Bytes)
    (f : Bytes) (hf : closeFile H C ht cht ct u dict chunks = some f)
    (hct : ct = 0 ∨ ct = 2)
    (hC : ct ≠ 0 → ∀ d p, p ≠ [] → D (C d p) d = some p ∧ C d p ≠ [])
    (hds : hsize ht = some ds) (hcs : hsize cht = some cs) (hH : HashLen H)
    (hne : ∀ p ∈ chunks, p ≠ []) (hsmall : ∀ p ∈ dict :: chunks, p.length < allocLimit) (hlen : f.length < 2^63)
    (hidx : ∀ ents dd, (storedPairs C ct dict chunks).mapM (fun (x : Bytes × Bytes × Bytes) => entryOf H cht u x.1 x.2.1 x.2.2) = some ents →
      (encIndex ⟨ht, cht, if u then 4 else 0, ct, dd, ents⟩).length < 2^31) :
    ∃ h, openFile H f = .ok h ∧ WF H D f h ∧ doneFrom D f h 1 (h.chunks.drop 1) = chunks.flatten := by
  obtain ⟨ents, dd, dg, hm, hdd, hdg, hf⟩ := closeFile_eq_some H hf
  have hisz := hidx ents dd hm
  obtain ⟨ws, m1, m2, m3, hw, h0ok, hrestok⟩ := closeFile_entries H D C cht ct cs u dict chunks ents hC hcs hH hne hm
  generalize hs : (⟨ht, cht, if u then 4 else 0, ct, dd, ents⟩ : Spec) = s at hf hisz hdg
  have hsfl : s.flags = if u then 4 else 0 := by rw [← hs]
  have hdgl : dg.length = ds := Option.some.inj ((hH _ _ _ hdg).symm.trans hds)
  have hwlen : ∀ w ∈ ws, w.c.compLen = w.st.length ∧ w.c.len = w.pl.length := fun w hwm => (hw w hwm).1
  have hsmall' : ∀ w ∈ ws, w.pl.length < allocLimit := fun w hwm => hsmall _ (m3 ▸ List.mem_map_of_mem hwm)
  have hfits : Fits s ds cs := by
    refine ⟨by rw [← hs]; exact hds, by rw [← hs]; exact hcs, by rw [← hs]; exact dataDigest_length H hds hH hdd, ?_,
      by rw [← hs]; exact hct, ?_, hisz, ?_⟩
    · rw [hsfl]; cases u
      · exact Or.inl rfl
      · exact Or.inr rfl
    · rw [← hs]; exact fun h => by rw [← m1, List.map_eq_nil_iff] at h; rw [h] at m3; cases m3
    · have hwu : withU s = u := by unfold withU; rw [hsfl]; cases u <;> decide
      rw [hwu, show s.chunks = ents by rw [← hs], ← m1]
      refine entFits_gen u cs _ _ 0 (fun c hc => ?_) ?_
      · -- every entry has checksums of the chunk checksum size, and its chunk is below the allocation limit
        obtain ⟨w, hwm, rfl⟩ := List.mem_map.mp hc
        exact ⟨(hw w hwm).2.1, (hw w hwm).2.2, (hwlen w hwm).2 ▸ le_of_lt_allocLimit (hsmall' w hwm)⟩
      · -- header and stored sizes together are the length of the file
        rw [Nat.zero_add, sumLen_map _ (fun w hwm => (hwlen w hwm).1), m2, Nat.add_comm]
        refine Nat.le_sub_one_of_lt (Nat.lt_of_le_of_lt (Nat.le_of_eq ?_) hlen)
        rw [hf, List.length_append, List.length_append, List.length_append, hdgl]
  have hdataok : s.flags = 4 ∨ H s.hashType (ws.map (·.st)).flatten = some s.dataDigest := by
    cases u with
    | true => exact Or.inl hsfl
    | false =>
      rw [if_neg Bool.false_ne_true] at hdd
      rw [m2, ← hs]; exact Or.inr hdd
  obtain ⟨r0, wf, hc⟩ := written_WF H D s ws ds cs dg (by rw [← hs, m1]) hfits (by rw [← hs] at hdg ⊢; exact hdg) hdgl
    hwlen (by rw [← hs]; exact h0ok) (by rw [← hs]; exact hrestok) hsmall' hdataok
  have hfile : f = fileOf s ws dg := by unfold fileOf; rw [m2, hf]
  rw [← hfile] at r0 wf hc
  -- the contents behind the dictionary's are the data chunks
  exact ⟨_, r0, wf, by rw [hc, List.map_drop, m3]; rfl⟩

/-- C01, any backend, from the bytes `zck_close` writes.  `f` = the file the model of `zck_close` produces for a dictionary
(possibly empty) and non-empty data chunks with compressor `C`; if the decompressor inverts `C` (and `C` does not produce nothing
from something) the parser model opens `f` and, for ANY read schedule that ends short, the bytes handed back are exactly the data
chunks concatenated, and `zck_close` succeeds. -/
theorem closeFile_reads_back (C : Option Bytes → Bytes → Bytes) (ht cht ct ds cs : Nat) (u : Bool) (dict : Bytes) (chunks : List Bytes)
    (f : Bytes) (hf : closeFile H C ht cht ct u dict chunks = some f)
    (hct : ct = 0 ∨ ct = 2)
    (hC : ct ≠ 0 → ∀ d p, p ≠ [] → D (C d p) d = some p ∧ C d p ≠ [])
    (hds : hsize ht = some ds) (hcs : hsize cht = some cs) (hH : HashLen H)
    (hne : ∀ p ∈ chunks, p ≠ []) (hsmall : ∀ p ∈ dict :: chunks, p.length < allocLimit) (hlen : f.length < 2^63)
    (hidx : ∀ ents dd, (storedPairs C ct dict chunks).mapM (fun (x : Bytes × Bytes × Bytes) => entryOf H cht u x.1 x.2.1 x.2.2) = some ents →
      (encIndex ⟨ht, cht, if u then 4 else 0, ct, dd, ents⟩).length < 2^31)
    (init : List Nat) (nl : Nat) :
    ∃ h, openFile H f = .ok h ∧
      (∀ r ∈ (reads H D f (openCtx h) init).1, 0 ≤ r.ret ∧ r.ret = r.bytes.length) ∧
      0 ≤ (compRead H D f (reads H D f (openCtx h) init).2 nl).1.ret ∧
      ((compRead H D f (reads H D f (openCtx h) init).2 nl).1.ret < nl →
        outOf (reads H D f (openCtx h) init).1 ++ (compRead H D f (reads H D f (openCtx h) init).2 nl).1.bytes = chunks.flatten ∧
        close H (compRead H D f (reads H D f (openCtx h) init).2 nl).2 = true) := by
  obtain ⟨h, hopen, wf, hc⟩ := closeFile_wf H D C ht cht ct ds cs u dict chunks f hf hct hC hds hcs hH hne hsmall hlen hidx
  obtain ⟨r1, r2, _, r4⟩ := read_back wf init nl
  exact ⟨h, hopen, r1, r2, fun hshort => by
    obtain ⟨a, b⟩ := r4 hshort
    exact ⟨by rw [a, hc], b⟩⟩

/-- C01, any backend, from the API calls to the bytes read back.  Any sequence of write / end-of-chunk calls under a legal
configuration, closed (chunker model), the file `zck_close` writes for the resulting chunks with compressor `C` (byte-for-byte
model, compared with the implementation on every WRITE case): any read schedule that ends short returns exactly the bytes written. -/
theorem write_close_read (cfg : Writer.Cfg) (hl : Writer.Legal cfg.norm) (ops : List Writer.Op) (chunks : List Bytes)
    (hclose : Writer.closeChunks cfg ops = some chunks)
    (C : Option Bytes → Bytes → Bytes) (ht cht ct ds cs : Nat) (u : Bool) (dict : Bytes) (f : Bytes)
    (hf : closeFile H C ht cht ct u dict chunks = some f)
    (hct : ct = 0 ∨ ct = 2)
    (hC : ct ≠ 0 → ∀ d p, p ≠ [] → D (C d p) d = some p ∧ C d p ≠ [])
    (hds : hsize ht = some ds) (hcs : hsize cht = some cs) (hH : HashLen H)
    (hsmall : ∀ p ∈ dict :: chunks, p.length < allocLimit) (hlen : f.length < 2^63)
    (hidx : ∀ ents dd, (storedPairs C ct dict chunks).mapM (fun (x : Bytes × Bytes × Bytes) => entryOf H cht u x.1 x.2.1 x.2.2) = some ents →
      (encIndex ⟨ht, cht, if u then 4 else 0, ct, dd, ents⟩).length < 2^31)
    (init : List Nat) (nl : Nat) :
    ∃ h, openFile H f = .ok h ∧
      ((compRead H D f (reads H D f (openCtx h) init).2 nl).1.ret < nl →
        outOf (reads H D f (openCtx h) init).1 ++ (compRead H D f (reads H D f (openCtx h) init).2 nl).1.bytes = Writer.written ops ∧
        close H (compRead H D f (reads H D f (openCtx h) init).2 nl).2 = true) := by
  have hne := Writer.closeChunks_nonempty cfg ops chunks hclose
  obtain ⟨h, h1, _, _, h4⟩ := closeFile_reads_back H D C ht cht ct ds cs u dict chunks f hf hct hC hds hcs hH hne hsmall hlen hidx init nl
  exact ⟨h, h1, fun hs => by
    obtain ⟨a, b⟩ := h4 hs
    exact ⟨by rw [a]; exact C01.W_structure cfg hl ops chunks hclose, b⟩⟩

theorem sto_zero (C : Option Bytes → Bytes → Bytes) (d : Option Bytes) (p : Bytes) : sto C 0 d p = p := by
  unfold sto
  split
  · rename_i h; exact (List.eq_nil_of_length_eq_zero h).symm
  · rfl

theorem entryOf_false (cht : Nat) (st pl upl : Bytes) : entryOf H cht false st pl upl = entryFor H cht st pl := by
  unfold entryOf entryFor
  by_cases h : pl.length = 0
  · rw [if_pos h, if_pos h]; rfl
  · rw [if_neg h, if_neg h]; cases H cht st <;> rfl

theorem entries_none (C : Option Bytes → Bytes → Bytes) (cht : Nat) (dict : Bytes) (chunks : List Bytes) :
    (storedPairs C 0 dict chunks).mapM (fun x => entryOf H cht false x.1 x.2.1 x.2.2) =
      (dict :: chunks).mapM (fun p => entryFor H cht p p) := by
  unfold storedPairs
  simp only [List.mapM_cons, List.mapM_map, sto_zero, entryOf_false, Function.comp_def]

theorem closeFile_none (C : Option Bytes → Bytes → Bytes) (ht cht : Nat) (dict : Bytes) (chunks : List Bytes) :
    closeFile H C ht cht 0 false dict chunks = closeFileNone H ht cht dict chunks := by
  have hst : (storedPairs C 0 dict chunks).map (·.1) = dict :: chunks := by
    unfold storedPairs
    simp [sto_zero, Function.comp_def]
  unfold closeFile closeFileNone
  simp only [entries_none, hst, Bool.false_eq_true, if_false]
  cases (dict :: chunks).mapM (fun p => entryFor H cht p p) with
  | none => rfl
  | some ents =>
    cases H ht (dict :: chunks).flatten with
    | none => rfl
    | some dd => simp only [Option.bind_eq_bind, Option.bind_some, Option.map_eq_bind, Function.comp_def]

theorem entryFor_spec (hH : HashLen H) (cht cs : Nat) (hcs : hsize cht = some cs) (p : Bytes) (c : Chunk)
    (h : entryFor H cht p p = some c) :
    c.compLen = p.length ∧ c.len = p.length ∧ c.digest.length = cs ∧ c.udigest = none ∧
    (p.length ≠ 0 → H cht p = some c.digest) ∧ (p.length = 0 → c.digest = zeros cs) := by
  unfold entryFor at h
  by_cases h0 : p.length = 0
  · rw [if_pos h0, hcs] at h
    simp only [Option.map_some, Option.some.injEq] at h
    subst h
    exact ⟨h0.symm, h0.symm, by simp [length_zeros], rfl, fun hx => absurd h0 hx, fun _ => rfl⟩
  · rw [if_neg h0] at h
    cases hd : H cht p with
    | none => rw [hd] at h; simp at h
    | some d =>
      rw [hd] at h
      simp only [Option.map_some, Option.some.injEq] at h
      subst h
      have := hH cht p d hd
      rw [hcs] at this
      exact ⟨rfl, rfl, by simpa using this.symm, rfl, fun _ => rfl, fun hx => absurd hx h0⟩

theorem entFits_of (u : Bool) (cs hdrTotal : Nat) : ∀ (ents : List Chunk) (idxLoc : Nat),
    (∀ c ∈ ents, c.digest.length = cs ∧ c.len = c.compLen) → u = false →
    idxLoc + C13.sumLen ents + hdrTotal ≤ 2^63 - 1 → EntFits u cs hdrTotal idxLoc ents :=
  fun ents idxLoc hall hu hb => entFits_gen u cs hdrTotal ents idxLoc (fun c hc =>
    ⟨(hall c hc).1, (fun h => by rw [hu] at h; cases h),
      (by rw [(hall c hc).2]; exact Nat.le_trans (C13.compLen_le_sumLen ents c hc) (by omega))⟩) hb

/-- C01 for uncompressed files, from the bytes `zck_close` writes: `closeFile_reads_back` for the "none" backend's own model -/
theorem closeFileNone_reads_back (ht cht ds cs : Nat) (dict : Bytes) (chunks : List Bytes) (f : Bytes)
    (hf : closeFileNone H ht cht dict chunks = some f)
    (hds : hsize ht = some ds) (hcs : hsize cht = some cs) (hH : HashLen H)
    (hne : ∀ p ∈ chunks, p ≠ []) (hsmall : ∀ p ∈ dict :: chunks, p.length < allocLimit) (hlen : f.length < 2^63)
    (hidx : ∀ ents dd, (dict :: chunks).mapM (fun p => entryFor H cht p p) = some ents →
      (encIndex ⟨ht, cht, 0, 0, dd, ents⟩).length < 2^31)
    (init : List Nat) (nl : Nat) :
    ∃ h, openFile H f = .ok h ∧
      (∀ r ∈ (reads H D f (openCtx h) init).1, 0 ≤ r.ret ∧ r.ret = r.bytes.length) ∧
      0 ≤ (compRead H D f (reads H D f (openCtx h) init).2 nl).1.ret ∧
      ((compRead H D f (reads H D f (openCtx h) init).2 nl).1.ret < nl →
        outOf (reads H D f (openCtx h) init).1 ++ (compRead H D f (reads H D f (openCtx h) init).2 nl).1.bytes = chunks.flatten ∧
        close H (compRead H D f (reads H D f (openCtx h) init).2 nl).2 = true) := by
  exact closeFile_reads_back H D (fun _ p => p) ht cht 0 ds cs false dict chunks f (by rw [closeFile_none]; exact hf) (Or.inl rfl)
    (fun h => absurd rfl h) hds hcs hH hne hsmall hlen (fun ents dd he => hidx ents dd (by rw [← entries_none]; exact he)) init nl

/-- C01, uncompressed, from the API calls to the bytes read back: `write_close_read` for the "none" backend's own model -/
theorem write_close_read_none (cfg : Writer.Cfg) (hl : Writer.Legal cfg.norm) (ops : List Writer.Op) (chunks : List Bytes)
    (hclose : Writer.closeChunks cfg ops = some chunks)
    (ht cht ds cs : Nat) (dict : Bytes) (f : Bytes) (hf : closeFileNone H ht cht dict chunks = some f)
    (hds : hsize ht = some ds) (hcs : hsize cht = some cs) (hH : HashLen H)
    (hsmall : ∀ p ∈ dict :: chunks, p.length < allocLimit) (hlen : f.length < 2^63)
    (hidx : ∀ ents dd, (dict :: chunks).mapM (fun p => entryFor H cht p p) = some ents →
      (encIndex ⟨ht, cht, 0, 0, dd, ents⟩).length < 2^31)
    (init : List Nat) (nl : Nat) :
    ∃ h, openFile H f = .ok h ∧
      ((compRead H D f (reads H D f (openCtx h) init).2 nl).1.ret < nl →
        outOf (reads H D f (openCtx h) init).1 ++ (compRead H D f (reads H D f (openCtx h) init).2 nl).1.bytes = Writer.written ops ∧
        close H (compRead H D f (reads H D f (openCtx h) init).2 nl).2 = true) := by
  exact write_close_read H D cfg hl ops chunks hclose (fun _ p => p) ht cht 0 ds cs false dict f (by rw [closeFile_none]; exact hf)
    (Or.inl rfl) (fun h => absurd rfl h) hds hcs hH hsmall hlen (fun ents dd he => hidx ents dd (by rw [← entries_none]; exact he))
    init nl

end

end Zck.EncP
