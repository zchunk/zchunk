/-
C02 — No silent corruption: a successful read implies verified, correct content.
Here: what the single operations of the model of `comp_read` / `zck_close` guarantee, for an arbitrary codec and hash.
The full statement for a stream read to its end (open, reads and close succeed ⇒ the bytes handed out are the
reference decoder's output) is `Props/C02Stream.lean` (`stream_sound`, any compression type), against the
independent reference decoder `Props/C02Decode.lean` (`stream_decodes`) and from the bytes of the file
`Props/C02Full.lean` (`open_read_decodes`).  On the implementation it is the predicate `c02_ok`, evaluated against
`Format.decodeAny` on the output for every generated file and read schedule.
-/
import ZckModel.Props.C15

namespace Zck.C02
open Zck.Format Zck.Reader

/-- `zck_close` (read mode) reports success exactly when the context is error-free and the
whole-data checksum over the consumed body bytes matches (skipped under flag 4, as the format says) -/
theorem close_iff (H : HashFn) (c : Ctx) :
    close H c = true ↔
      c.err = false ∧ (flag4 c = true ∨ ∃ bs, c.fullHash = some bs ∧ H c.hdr.hashType bs = some c.hdr.dataDigest) :=
  close_eq_true

/-- a chunk end that succeeds has consistent sizes and a matching checksum (any compression type) -/
theorem chunk_end_verified (H : HashFn) (D : Decomp) (c : Ctx) (k : Nat) (ch : Chunk) (useDict : Bool) (c2 : Ctx)
    (h : endDchunk H D c k ch useDict = .ok c2) :
    (c.hdr.compType = 0 → ch.compLen = ch.len) ∧
    ∃ bs d, c.chunkHash = some bs ∧ H c.hdr.chunkHashType bs = some d ∧
      (if ch.compLen = 0 then zeros d.length else d) = ch.digest := by
  obtain ⟨plain, hdec, hv, _⟩ := endDchunk_eq_ok.mp h
  refine ⟨fun h0 => ?_, validateChunk_eq_one.mp hv⟩
  unfold Decodes at hdec
  rw [if_pos h0] at hdec
  exact hdec.1

/-- for unit-decoded chunks: whatever any sequence of reads returns is verified content (C15) -/
theorem reads_return_verified (H : HashFn) (D : Decomp) (f : Bytes) (h : Hdr) (hz : h.compType ≠ 0) (ns : List C15.Call) :
    Ver H D h (C15.readCalls H D f (openCtx h) ns).1 :=
  C15.C15 H D f h hz ns

end Zck.C02
