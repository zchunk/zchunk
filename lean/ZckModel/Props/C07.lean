/-
C07 — Pinned header validation accepts exactly the authenticated header.
-/
import ZckModel.Pin
import ZckModel.Pred.Hdr
import ZckModel.Props.C06

namespace Zck.C07
open Zck.Header Zck.Pin Zck.PredHdr

/-- hex digits: `hex_to_int` accepts exactly 0-9, a-f, A-F and returns the digit's value
(all 256 byte values) -/
theorem hex_exact (c : UInt8) :
    hexVal c = if isHex c then some (hexDigitVal c) else none := by
  unfold hexVal isHex hexDigitVal
  by_cases h1 : 48 ≤ c.toNat ∧ c.toNat ≤ 57
  · simp [h1]
  · by_cases h2 : 97 ≤ c.toNat ∧ c.toNat ≤ 102
    · have a : ¬ c.toNat ≤ 57 := by omega
      have b : ¬ c.toNat ≤ 70 := by omega
      simp [h2, a, b]; omega
    · by_cases h3 : 65 ≤ c.toNat ∧ c.toNat ≤ 70
      · have a : ¬ c.toNat ≤ 57 := by omega
        simp [h2, h3, a]; omega
      · simp [h1, h2, h3]

/-- `ascii_checksum_to_bin` succeeds exactly on strings of hex digits and returns their value, byte by byte; a last
character without a partner is checked and dropped, as `fromHex` drops it -/
theorem toBin_eq : ∀ (s : Bytes), toBin s = if s.all isHex then some (fromHex s) else none
  | [] => rfl
  | [a] => by simp only [toBin, hex_exact, List.all_cons, List.all_nil, Bool.and_true, fromHex]; split <;> rfl
  | a :: b :: rest => by
    simp only [toBin, hex_exact, toBin_eq rest, List.all_cons, fromHex]
    by_cases ha : isHex a <;> by_cases hb : isHex b <;> by_cases hc : rest.all isHex <;> simp [ha, hb, hc]

/-- digest strings: `toBin_eq` for the strings of even length, which is what the length check of the setter admits -/
theorem toBin_exact : ∀ (s : Bytes), s.length % 2 = 0 →
    toBin s = if s.all isHex then some (fromHex s) else none :=
  fun s _ => toBin_eq s

/-- the digest setter: accepted iff a type was pinned before, the string has exactly twice the
digest size characters and all are hex digits; the pinned value is the string's value -/
theorem setDigest_iff (p : Pins) (s : Bytes) (q : Pins) :
    setDigest p s = some q ↔
      ∃ t ds, p.ht = some t ∧ Format.hsize t = some ds ∧ s.length = 2 * ds ∧ s.all isHex = true ∧
        q = { p with digest := some (fromHex s) } := by
  unfold setDigest
  constructor
  · intro h
    split at h
    · cases h
    · rename_i t ht
      split at h
      · cases h
      · rename_i ds hds
        split at h
        · cases h
        · rename_i hlen
          have hl : s.length = 2 * ds := by omega
          rw [toBin_eq s] at h
          by_cases hall : s.all isHex = true
          · simp only [hall, ↓reduceIte, Option.some.injEq] at h
            exact ⟨t, ds, ht, hds, hl, hall, h.symm⟩
          · simp only [hall] at h
            cases h
  · rintro ⟨t, ds, ht, hds, hl, hall, rfl⟩
    simp only [ht, hds]
    rw [if_neg (by omega), toBin_eq s, hall]
    simp

/-- C07 (lead): with pins set, `read_lead` accepts exactly when it accepts without pins and
every pinned value equals the file's stored one (type, checksum bytes, total header length) -/
theorem lead_pins_iff (pins : Pins) (f : Bytes) (l : Lead) :
    readLead pins f = .ok l ↔
      readLead {} f = .ok l ∧
      (pins.ht = none ∨ pins.ht = some l.hashType) ∧
      (pins.digest = none ∨ pins.digest = some l.digest) ∧
      (pins.len = none ∨ pins.len = some ((l.headerLen + l.leadSize) % 2^64)) := by
  -- the pins enter `readLead_eq_ok` as one conjunct; without pins it is trivially true
  simp only [readLead_eq_ok, true_or, true_and]
  exact and_comm

/-- C07 (authenticated header): a file that opens under a pinned checksum has exactly that checksum stored, and (C06 gate) it is
the checksum of all its header bytes.  (Two such files then have the same header after the identifier unless the checksum
function collides: `C06.mutation_rejected`.) -/
theorem pinned_open_authentic (H : HashFn) (pins : Pins) (d : Bytes) (hd : pins.digest = some d)
    (f : Bytes) (l : Lead) (hb : Bytes)
    (hl : readLead pins f = .ok l) (ho : readHeaderFromFile H f l = .ok hb) :
    l.digest = d ∧ H l.hashType (digestInput f l) = some d := by
  obtain ⟨_, _, p2, _⟩ := (lead_pins_iff pins f l).mp hl
  have hdg : l.digest = d := by
    rcases p2 with h | h
    · rw [hd] at h; cases h
    · rw [hd] at h; exact (Option.some.inj h).symm
  exact ⟨hdg, by rw [← hdg]; exact (C06.gate H f l hb ho).1⟩

example : toBin [0x61, 0x46, 0x30, 0x39] = some [0xaf, 0x09] := by decide +kernel
example : toBin [0x2a, 0x30] = none := by decide        -- "*0" is rejected
example : hexVal 0x40 = none := by decide                -- '@'

end Zck.C07
