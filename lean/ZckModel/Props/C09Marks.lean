/-
The marks of the validity scan (`Reader.scanMarks`, the closed form of the chunk loop of `validate_checksums`) for a running
index: the mark of a chunk with stored bytes is computed from the bytes at its own extent, it is 1 or -1, and it is 1 exactly
when the chunk is present.  The hypothesis `k = 0 → ∀ c, cs.head? = some c → c.len = 0 → c.compLen = 0` that the statements
here and in `Props/C09.lean` carry says that an empty dictionary entry stores nothing: the loop marks that entry valid without
reading, so the entries behind it are read at their own extents only if it has no stored bytes.
-/
import ZckModel.ReaderScan
import ZckModel.Props.Run

namespace Zck.C04
open Zck.Format

/-- chunk `tc` is present in `f` behind a header whose data starts at `D` (the notion C04 and C09 share) -/
def Present (H : HashFn) (ht D : Nat) (f : Bytes) (tc : Chunk) : Prop :=
  D + tc.start + tc.compLen ≤ f.length ∧ H ht ((f.drop (D + tc.start)).take tc.compLen) = some tc.digest

end Zck.C04

namespace Zck.Reader
open Zck.Format

theorem markAt_range (H : HashFn) (f : Bytes) (hdr : Hdr) (p : Nat) (ch : Chunk) :
    markAt H f hdr p ch = 1 ∨ markAt H f hdr p ch = -1 := by
  unfold markAt scanValue
  cases H hdr.chunkHashType (fileRead f p ch.compLen) with
  | none => exact Or.inr rfl
  | some d =>
    simp only
    generalize (if ch.compLen = 0 then zeros d.length else d) = d'
    split
    · exact Or.inr rfl
    · split
      · exact Or.inl rfl
      · exact Or.inr rfl

theorem markAt_eq_one (H : HashFn) (f : Bytes) (hdr : Hdr) (D : Nat) (ch : Chunk) (hz : ch.compLen ≠ 0) :
    markAt H f hdr (D + ch.start) ch = 1 ↔ C04.Present H hdr.chunkHashType D f ch := by
  rw [markAt_eq_one_iff]
  simp only [if_neg hz]
  unfold C04.Present fileRead
  have hlen : ((f.drop (D + ch.start)).take ch.compLen).length = ch.compLen ↔ D + ch.start + ch.compLen ≤ f.length := by
    rw [List.length_take, List.length_drop]; omega
  rw [hlen]
  exact and_congr_right fun _ => ⟨fun ⟨d, h1, h2⟩ => h2 ▸ h1, fun h => ⟨_, h, rfl⟩⟩

theorem markAt_eof (H : HashFn) (f : Bytes) (hdr : Hdr) (p : Nat) (ch : Chunk) (hz : ch.compLen ≠ 0) (hp : f.length ≤ p) :
    markAt H f hdr p ch = -1 :=
  -- a mark 1 would need all `compLen` bytes, and behind the end of the file there are none
  (markAt_range H f hdr p ch).resolve_left fun h => by
    have := ((markAt_eq_one_iff H f hdr p ch).mp h).1
    rw [length_fileRead] at this; omega

/-- a mark 1 found for entry `i` of a running index from `pos` — where the entries `cs` are stored, or behind the end of the file,
which is where the position is after a short read — says that the chunk is present -/
theorem markAt_run_present (H : HashFn) (f : Bytes) (hdr : Hdr) {cs : List Chunk} {k s i : Nat} {tc : Chunk} (D pos : Nat)
    (hr : C13.RunFrom k s cs) (hi : cs[i]? = some tc) (hz : tc.compLen ≠ 0) (hpos : pos = D + s ∨ f.length ≤ pos)
    (h1 : markAt H f hdr (pos + C13.sumLen (cs.take i)) tc = 1) : C04.Present H hdr.chunkHashType D f tc := by
  rcases hpos with rfl | hp
  · rw [Nat.add_assoc, ← C13.run_start hr hi] at h1
    exact (markAt_eq_one H f hdr D tc hz).mp h1
  · rw [markAt_eof H f hdr _ tc hz (by omega)] at h1; cases h1

theorem scanMarks_getElem? (H : HashFn) (f : Bytes) (hdr : Hdr) :
    ∀ (cs : List Chunk) (k p i : Nat) (tc : Chunk), (k = 0 → ∀ c, cs.head? = some c → c.len = 0 → c.compLen = 0) →
      cs[i]? = some tc → (hdr.detached = true → i = 0) →
      (scanMarks H f hdr cs k p)[i]? =
        some (if k + i = 0 ∧ tc.len = 0 then 1 else markAt H f hdr (p + C13.sumLen (cs.take i)) tc)
  | [], _, _, _, _, _, h, _ => by simp at h
  | ch :: rest, k, p, 0, tc, _, h, _ => by
    cases Option.some.inj h
    rw [scanMarks]
    simp only [Nat.add_zero, List.take_zero, C13.sumLen]
    by_cases hf : k = 0 ∧ ch.len = 0
    · rw [if_pos hf, if_pos hf]; rfl
    · rw [if_neg hf, if_neg hf]; rfl
  | ch :: rest, k, p, i + 1, tc, hdict, h, hdet => by
    have hd : hdr.detached = false := by cases hx : hdr.detached with | false => rfl | true => cases hdet hx
    have ih := fun q => scanMarks_getElem? H f hdr rest (k + 1) q i tc (by omega) h (by simp [hd])
    rw [scanMarks]
    simp only [hd, Bool.false_eq_true, ↓reduceIte, List.take_succ_cons, C13.sumLen]
    by_cases hf : k = 0 ∧ ch.len = 0
    · rw [if_pos hf, List.getElem?_cons_succ, ih, hdict hf.1 ch rfl hf.2, Nat.zero_add, if_neg (by omega), if_neg (by omega)]
    · rw [if_neg hf, List.getElem?_cons_succ, ih, if_neg (by omega), if_neg (by omega), Nat.add_assoc]

theorem scanMarks_stored (H : HashFn) (f : Bytes) (hdr : Hdr) (cs : List Chunk) (k p i : Nat) (tc : Chunk)
    (hdict : k = 0 → ∀ c, cs.head? = some c → c.len = 0 → c.compLen = 0) (hi : cs[i]? = some tc)
    (hdet : hdr.detached = true → i = 0) (hz : tc.compLen ≠ 0) :
    (scanMarks H f hdr cs k p)[i]? = some (markAt H f hdr (p + C13.sumLen (cs.take i)) tc) := by
  rw [scanMarks_getElem? H f hdr cs k p i tc hdict hi hdet, if_neg]
  intro h
  obtain rfl : i = 0 := by omega
  exact hz (hdict (by omega) tc (by rw [List.head?_eq_getElem?]; exact hi) h.2)

theorem scanMarks_length_detached (H : HashFn) (f : Bytes) (hdr : Hdr) (hdet : hdr.detached = true) (cs : List Chunk) (k p : Nat) :
    (scanMarks H f hdr cs k p).length ≤ 1 := by
  cases cs with
  | nil => simp [scanMarks]
  | cons ch rest => unfold scanMarks; split <;> simp

theorem scanMarks_range (H : HashFn) (f : Bytes) (hdr : Hdr) :
    ∀ (cs : List Chunk) (k p : Nat), ∀ v ∈ scanMarks H f hdr cs k p, v = 1 ∨ v = -1
  | [], _, _, _, h => by simp [scanMarks] at h
  | ch :: rest, k, p, v, h => by
    unfold scanMarks at h
    split at h <;> rcases List.mem_cons.mp h with h | h
    · exact Or.inl h
    · split at h
      · cases h
      · exact scanMarks_range H f hdr rest _ _ v h
    · rw [h]; exact markAt_range H f hdr p ch
    · split at h
      · cases h
      · exact scanMarks_range H f hdr rest _ _ v h

theorem scanLen_eq (hdr : Hdr) (hdet : hdr.detached = false) :
    ∀ (cs : List Chunk) (k : Nat), (k = 0 → ∀ c, cs.head? = some c → c.len = 0 → c.compLen = 0) →
      scanLen hdr cs k = C13.sumLen cs
  | [], _, _ => rfl
  | ch :: rest, k, hdict => by
    unfold scanLen
    simp only [hdet, Bool.false_eq_true, ↓reduceIte, C13.sumLen, scanLen_eq hdr hdet rest (k + 1) (by omega)]
    split
    · rename_i hf; rw [hdict hf.1 ch rfl hf.2, Nat.zero_add]
    · rfl

theorem all_one_iff (m : List Int) : m.all (· = 1) = true ↔ ∀ i, i < m.length → m.getD i 0 = 1 := by
  rw [List.all_eq_true]
  constructor
  · intro h i hi
    rw [List.getD_eq_getElem?_getD, List.getElem?_eq_getElem hi]
    simpa using h _ (List.getElem_mem hi)
  · intro h x hx
    obtain ⟨i, hi, rfl⟩ := List.getElem_of_mem hx
    have := h i hi
    rw [List.getD_eq_getElem?_getD, List.getElem?_eq_getElem hi] at this
    simpa using this

end Zck.Reader
