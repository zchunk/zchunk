/-
Lemmas about the model of the download callbacks (`Dl.lean`) that no single property owns.  Each primitive step (`dl_write`,
`set_chunk_valid`, the search for the next chunk) is characterised once — the few ways it can go, with the resulting context
written out — so that no proof unfolds it again; a predicate kept by these steps is then lifted through `dl_write_range`, the loop
of `multipart_extract`, the callbacks and feeding.  The two loops run on fuel; running out of it sets `ub` and nothing else, so a
lifting holds when the fuel suffices (safety, C17) or when the predicate does not look at `ub` (confinement and verification,
C05).  The lemmas about `dl_write_range` and about the loop stand in the namespaces of C05 and C17, whose statements mention them.
-/
import ZckModel.Dl
import ZckModel.BytesLemmas

namespace Zck.Dl
open Zck.Format Zck.Copy

/-- the context after `dl_write` has put `d` into the open chunk (hash and counters apart) -/
def St.wrote (st : St) (d : Bytes) : St :=
  { st with file := writeAt st.file st.pos d, pos := st.pos + d.length, writeInChunk := st.writeInChunk - d.length }

theorem St.wrote_wrote (st : St) (a b : Bytes) : (st.wrote a).wrote b = st.wrote (a ++ b) := by
  unfold St.wrote
  simp only [Copy.writeAt_writeAt, List.length_append, Nat.add_assoc, Nat.sub_sub]

theorem dlWrite_closed (st : St) (x : Bytes) (hw : st.writeInChunk = 0) : dlWrite st x = (some 0, st) := by
  unfold dlWrite; simp [hw]

/-- the write comes first: a call that `hash_update` then refuses (empty `d`, no hash context) has written and has moved the
position -/
theorem dlWrite_open (st : St) (x : Bytes) (hw : 0 < st.writeInChunk) :
    dlWrite st x =
      (let d := x.take st.writeInChunk
       if d = [] then (none, { st.wrote d with err := true }) else
       match st.hash with
       | none => (none, { st.wrote d with err := true })
       | some acc => (some d.length, { st.wrote d with hash := some (acc ++ d), dlChunkData := st.dlChunkData + d.length })) := by
  unfold dlWrite
  have hwb : (if st.writeInChunk < x.length then st.writeInChunk else x.length) = (x.take st.writeInChunk).length := by
    rw [List.length_take]
    by_cases h : st.writeInChunk < x.length
    · rw [if_pos h, Nat.min_eq_left (Nat.le_of_lt h)]
    · rw [if_neg h, Nat.min_eq_right (Nat.le_of_not_lt h)]
  have htk : x.take (x.take st.writeInChunk).length = x.take st.writeInChunk := by
    rw [List.length_take, List.take_eq_take_min, Nat.min_assoc, Nat.min_self, ← List.take_eq_take_min]
  simp only [hw, ↓reduceIte, hwb, htk, List.length_eq_zero_iff]
  rfl

@[elab_as_elim] theorem dlWrite_cases {C : Option Nat × St → Prop} (st : St) (x : Bytes)
    (closed : st.writeInChunk = 0 → C (some 0, st))
    (refused : ∀ d, 0 < st.writeInChunk → d = x.take st.writeInChunk → d = [] ∨ st.hash = none →
      C (none, { st.wrote d with err := true }))
    (taken : ∀ d acc, 0 < st.writeInChunk → d = x.take st.writeInChunk → d ≠ [] → st.hash = some acc →
      C (some d.length, { st.wrote d with hash := some (acc ++ d), dlChunkData := st.dlChunkData + d.length })) :
    C (dlWrite st x) := by
  by_cases hw : st.writeInChunk = 0
  · rw [dlWrite_closed st x hw]; exact closed hw
  · have hp := Nat.pos_of_ne_zero hw
    rw [dlWrite_open st x hp]
    by_cases hd : x.take st.writeInChunk = []
    · rw [if_pos hd]; exact refused _ hp rfl (.inl hd)
    rw [if_neg hd]
    cases hh : st.hash with
    | none => exact refused _ hp rfl (.inr hh)
    | some acc => exact taken _ _ hp rfl hd hh

theorem dlWrite_some (st st1 : St) (x : Bytes) (wb : Nat) (h : dlWrite st x = (some wb, st1)) :
    (st.writeInChunk = 0 ∧ wb = 0 ∧ st1 = st) ∨
    (0 < st.writeInChunk ∧ 0 < wb ∧ wb ≤ x.length ∧ wb ≤ st.writeInChunk ∧ st1.writeInChunk = st.writeInChunk - wb ∧
      st1.err = st.err) := by
  revert h
  refine dlWrite_cases st x (fun h0 h => ?_) (fun d _ _ _ h => by simp at h) (fun d acc hw hd hne _ h => ?_)
  · simp only [Prod.mk.injEq, Option.some.injEq] at h
    exact .inl ⟨h0, h.1.symm, h.2.symm⟩
  · simp only [Prod.mk.injEq, Option.some.injEq] at h
    obtain ⟨rfl, rfl⟩ := h
    exact .inr ⟨hw, List.length_pos_iff.mpr hne, hd ▸ List.length_take_le' _ _, hd ▸ List.length_take_le _ _, rfl, rfl⟩

theorem dlWrite_taken (st : St) (x acc : Bytes) (hw : 0 < st.writeInChunk) (hh : st.hash = some acc) (hx : x ≠ []) :
    dlWrite st x = (some (x.take st.writeInChunk).length,
      { st.wrote (x.take st.writeInChunk) with hash := some (acc ++ x.take st.writeInChunk),
                                               dlChunkData := st.dlChunkData + (x.take st.writeInChunk).length }) := by
  have : x.take st.writeInChunk ≠ [] := fun h => (List.take_eq_nil_iff.mp h).elim (Nat.ne_of_gt hw) hx
  rw [dlWrite_open st x hw]
  simp only [this, ↓reduceIte, hh]

theorem setChunkValid_none (e : Env) (st : St) (k : Nat) (hc : e.hdr.chunks[k]? = none) :
    setChunkValid e st k = (false, { st with ub := true }) := by
  unfold setChunkValid; rw [hc]

/-- two cases, not three: the failing branches of `set_chunk_valid` (no hash context; another checksum) differ in the error flag
only -/
theorem setChunkValid_spec (e : Env) (st : St) (k : Nat) (c : Chunk) (hc : e.hdr.chunks[k]? = some c) :
    (∃ acc, st.hash = some acc ∧
      (if c.compLen = 0 then (hsize e.hdr.chunkHashType).map zeros else e.H e.hdr.chunkHashType acc) = some c.digest ∧
      setChunkValid e st k = (true, { st with hash := none, valid := st.valid.set k 1, tgtCheck := none })) ∨
    ((∀ acc, st.hash = some acc →
        (if c.compLen = 0 then (hsize e.hdr.chunkHashType).map zeros else e.H e.hdr.chunkHashType acc) ≠ some c.digest) ∧
      setChunkValid e st k = (false,
        { st with hash := none, err := (st.err || st.hash.isNone), valid := st.valid.set k (-1),
                  file := writeAt st.file (e.dataOff + c.start) (zeros c.compLen), pos := e.dataOff + c.start + c.compLen })) := by
  unfold setChunkValid
  rw [hc]
  cases hh : st.hash with
  | none =>
    right
    refine ⟨fun _ h => by simp at h, ?_⟩
    simp_all [zeroChunk]
  | some acc =>
    dsimp only
    by_cases hd : (if c.compLen = 0 then (hsize e.hdr.chunkHashType).map zeros else e.H e.hdr.chunkHashType acc) = some c.digest
    · left; exact ⟨acc, rfl, hd, by rw [hd]; simp⟩
    · right
      refine ⟨fun a ha => by simp only [Option.some.injEq] at ha; subst ha; exact hd, ?_⟩
      rw [if_neg (mt beq_iff_eq.mp hd)]
      simp [zeroChunk]

/-- what the search for the next chunk tests of an entry of the request -/
def Eligible (e : Env) (st : St) (rc : RChunk) : Prop :=
  st.dlChunkData = rc.start ∧ st.valid.getD rc.tgt 0 ≠ 1 ∧ ∃ tc, e.hdr.chunks[rc.tgt]? = some tc ∧ rc.compLen = tc.compLen

theorem findNext_congr (e : Env) (st st' : St) (hd : st'.dlChunkData = st.dlChunkData) (hv : st'.valid = st.valid) :
    ∀ (l : List RChunk) (j : Nat), findNext e st' l j = findNext e st l j
  | [], _ => rfl
  | rc :: rest, j => by
    unfold findNext
    rw [hd, hv, findNext_congr e st st' hd hv rest (j + 1)]

theorem findNext_some (e : Env) (st : St) : ∀ (l : List RChunk) (j j' : Nat) (rc : RChunk),
    findNext e st l j = some (j', rc) → rc ∈ l ∧ Eligible e st rc
  | [], _, _, _, h => by simp [findNext] at h
  | r :: rest, j, j', rc, h => by
    have ih := fun h => (findNext_some e st rest (j + 1) j' rc h).imp_left (List.mem_cons_of_mem r)
    rw [findNext] at h
    by_cases h1 : st.dlChunkData ≠ r.start
    · exact ih (by rwa [if_pos h1] at h)
    by_cases h2 : st.valid.getD r.tgt 0 = 1
    · exact ih (by rwa [if_neg h1, if_pos h2] at h)
    rw [if_neg h1, if_neg h2] at h
    split at h
    · split at h
      · obtain ⟨_, rfl⟩ := Prod.mk.inj (Option.some.inj h)
        exact ⟨List.mem_cons_self, Classical.not_not.mp h1, h2, _, ‹_›, ‹_›⟩
      · exact ih h
    · exact ih h

theorem findNext_head (e : Env) (st : St) (rc : RChunk) (rest : List RChunk) (j : Nat) (h : Eligible e st rc) :
    findNext e st (rc :: rest) j = some (j, rc) := by
  obtain ⟨h1, h2, tc, h3, h4⟩ := h
  unfold findNext
  rw [if_neg (by simp [h1]), if_neg h2, h3]
  simp [h4]

theorem findNext_none (e : Env) (st : St) : ∀ (l : List RChunk) (j : Nat), (∀ rc ∈ l, rc.start ≠ st.dlChunkData) →
    findNext e st l j = none
  | [], _, _ => rfl
  | rc :: rest, j, h => by
    unfold findNext
    rw [if_pos (fun hx => h rc List.mem_cons_self hx.symm)]
    exact findNext_none e st rest (j + 1) (fun r hr => h r (List.mem_cons_of_mem _ hr))

/-- where the loop over the range index starts: `range->index.current`, or the first entry when that is NULL -/
def St.from (e : Env) (st : St) : Nat := if st.curNull ∨ st.cur ≥ e.ridx.length then 0 else st.cur

theorem dlOpen_eq (e : Env) (st : St) :
    dlOpen e st =
      match findNext e st (e.ridx.drop (st.from e)) (st.from e) with
      | some (j, rc) =>
        (match e.hdr.chunks[rc.tgt]? with
         | some tc => { st with tgtCheck := some rc.tgt, hash := some [], writeInChunk := rc.compLen, pos := e.dataOff + tc.start, cur := j + 1, curNull := decide (j + 1 ≥ e.ridx.length) }
         | none => { st with cur := st.from e, curNull := false })
      | none => { st with cur := st.from e, curNull := false } := by
  rw [← findNext_congr e st { st with cur := st.from e, curNull := false } rfl rfl]
  rfl

theorem dlOpen_spec (e : Env) (st : St) :
    dlOpen e st = { st with cur := st.from e, curNull := false } ∨
    ∃ j rc tc, rc ∈ e.ridx ∧ Eligible e st rc ∧ e.hdr.chunks[rc.tgt]? = some tc ∧
      dlOpen e st = { st with tgtCheck := some rc.tgt, hash := some [], writeInChunk := rc.compLen, pos := e.dataOff + tc.start, cur := j + 1, curNull := decide (j + 1 ≥ e.ridx.length) } := by
  rw [dlOpen_eq]
  cases hf : findNext e st (e.ridx.drop (st.from e)) (st.from e) with
  | none => exact .inl rfl
  | some p =>
    obtain ⟨hm, hel⟩ := findNext_some e st _ _ p.1 p.2 hf
    obtain ⟨tc, htc, _⟩ := hel.2.2
    exact .inr ⟨p.1, p.2, tc, List.mem_of_mem_drop hm, hel, htc, by simp only [htc]⟩

theorem dlOpen_err (e : Env) (st : St) : (dlOpen e st).err = st.err := by
  rcases dlOpen_spec e st with h | ⟨_, _, _, _, _, _, h⟩ <;> rw [h]

theorem dlVerify_none (e : Env) (st : St) (hk : st.tgtCheck = none) : dlVerify e st = (true, st) := by
  unfold dlVerify; rw [hk]

theorem dlVerify_some (e : Env) (st : St) (k : Nat) (hk : st.tgtCheck = some k) : dlVerify e st = setChunkValid e st k := by
  unfold dlVerify; rw [hk]

theorem dlSelect_verified (e : Env) (st : St) (k : Nat) (c : Chunk) (acc : Bytes) (hk : st.tgtCheck = some k)
    (hc : e.hdr.chunks[k]? = some c) (hh : st.hash = some acc)
    (hd : (if c.compLen = 0 then (hsize e.hdr.chunkHashType).map zeros else e.H e.hdr.chunkHashType acc) = some c.digest) :
    dlSelect e st = (true, dlOpen e { st with hash := none, valid := st.valid.set k 1, tgtCheck := none }) := by
  unfold dlSelect
  rw [dlVerify_some e st k hk]
  rcases setChunkValid_spec e st k c hc with ⟨_, _, _, heq⟩ | ⟨hne, _⟩
  · rw [heq]; rfl
  · exact absurd hd (hne acc hh)

theorem dlVerify_keeps (e : Env) (st : St) :
    (dlVerify e st).2.writeInChunk = st.writeInChunk ∧ ((dlVerify e st).1 = true → (dlVerify e st).2.err = st.err) := by
  cases hk : st.tgtCheck with
  | none => rw [dlVerify_none e st hk]; exact ⟨rfl, fun _ => rfl⟩
  | some k =>
    rw [dlVerify_some e st k hk]
    cases hc : e.hdr.chunks[k]? with
    | none => rw [setChunkValid_none e st k hc]; exact ⟨rfl, fun h => absurd h (by simp)⟩
    | some c =>
      rcases setChunkValid_spec e st k c hc with ⟨_, _, _, heq⟩ | ⟨_, heq⟩ <;> rw [heq]
      · exact ⟨rfl, fun _ => rfl⟩
      · exact ⟨rfl, fun h => absurd h (by simp)⟩

theorem dlVerify_wic (e : Env) (st : St) : (dlVerify e st).2.writeInChunk = st.writeInChunk := (dlVerify_keeps e st).1

theorem dlSelect_err (e : Env) (st : St) (h : (dlSelect e st).1 = true) : (dlSelect e st).2.err = st.err := by
  unfold dlSelect at h ⊢
  dsimp only at h ⊢
  split at h
  · exact absurd h (by simp)
  · rename_i hv
    rw [if_neg hv]
    exact (dlOpen_err e _).trans ((dlVerify_keeps e st).2 (by simpa using hv))

theorem scanFrom_cons : ∀ (a : UInt8) (bs : Bytes) (j : Nat), scanFrom (a :: bs) j =
    if bs.length < 4 then .inl j else if (a :: bs).take 4 = [13, 10, 13, 10] then .inr j else scanFrom bs (j + 1)
  | _, [], _ | _, [_], _ | _, [_, _], _ | _, [_, _, _], _ => rfl
  | a, b :: c :: d :: x :: rest, j => by
    rw [scanFrom, if_neg (show ¬ (b :: c :: d :: x :: rest).length < 4 from Nat.not_lt.2 (Nat.le_add_left 4 rest.length))]
    simp only [List.take_succ_cons, List.take_zero, List.cons.injEq, and_true]

end Zck.Dl

namespace Zck.C05
open Zck.Format Zck.Dl

/-- fuel `dl_write_range` needs for its argument -/
def dneed (st : St) (x : Bytes) : Nat := 2 * x.length + (if st.writeInChunk = 0 then 1 else 0) + 1

theorem dneed_pos {st : St} {x : Bytes} : 0 < dneed st x := Nat.succ_pos _

theorem dneed_le (st : St) (x : Bytes) : dneed st x ≤ 2 * x.length + 2 :=
  Nat.succ_le_succ (Nat.add_le_add_left (by split <;> decide) _)

theorem dneed_open (st : St) (x : Bytes) (h : 0 < st.writeInChunk) : dneed st x = 2 * x.length + 1 := by
  unfold dneed; rw [if_neg (Nat.ne_of_gt h)]

/-- why `dneed` is enough: an open chunk takes at least one byte, and a call that begins with no chunk open makes its recursive
call with one open -/
theorem dneed_step {st st1 s2 : St} {x : Bytes} {wb F : Nat} (hw : dlWrite st x = (some wb, st1))
    (h2 : s2.writeInChunk > 0) (hF : dneed st x ≤ F + 1) : dneed s2 (x.drop wb) ≤ F := by
  unfold dneed at hF ⊢
  rw [if_neg (by omega), List.length_drop]
  rcases dlWrite_some st st1 x wb hw with ⟨h0, _, _⟩ | ⟨h0, _, _⟩
  · rw [if_pos h0] at hF; omega
  · rw [if_neg (by omega)] at hF; omega

/-- `wb + (what the recursive call consumed)`, 0 meaning failure -/
def bump (w : Nat) (x : Nat × St) : Nat × St := if x.1 = 0 then (0, x.2) else (w + x.1, x.2)

theorem bump_zero (x : Nat × St) : bump 0 x = x := by
  unfold bump
  split
  · rename_i h; obtain ⟨a, b⟩ := x; simp only at h; subst h; rfl
  · simp

theorem bump_bump (w w' : Nat) (x : Nat × St) : bump w (bump w' x) = bump (w + w') x := by
  unfold bump
  by_cases h : x.1 = 0
  · simp [h]
  · simp only [h, ↓reduceIte]
    rw [if_neg (by omega), Nat.add_assoc]

theorem bump_snd (w : Nat) (x : Nat × St) : (bump w x).2 = x.2 := by unfold bump; split <;> rfl
theorem bump_zero_iff (w : Nat) (x : Nat × St) : (bump w x).1 = 0 ↔ x.1 = 0 := by
  unfold bump; split
  · simpa
  · simp only [Nat.add_eq_zero_iff]; exact ⟨And.right, fun h => absurd h ‹_›⟩

/-- between two chunks: once the open chunk is complete it is verified and the next one looked for -/
def sel (e : Env) (st : St) : Bool × St := if st.writeInChunk = 0 then dlSelect e st else (true, st)

theorem sel_err (e : Env) (st : St) (h : (sel e st).1 = true) : (sel e st).2.err = st.err := by
  unfold sel at h ⊢
  split at h
  · rw [if_pos ‹_›]; exact dlSelect_err e st h
  · rw [if_neg ‹_›]

/-- what `dl_write_range` does after a successful `dl_write` of `wb` bytes (fuel `F` for the recursive call) -/
def cont (e : Env) (F wb : Nat) (st1 : St) (at_ : Bytes) : Nat × St :=
  let r := sel e st1
  if ¬ r.1 then (0, r.2) else
  if r.2.writeInChunk > 0 ∧ wb < at_.length then
    bump wb (dlWriteRange e F r.2 (at_.drop wb))
  else (wb, r.2)

theorem dwr_succ (e : Env) (F : Nat) (st : St) (x : Bytes) :
    dlWriteRange e (F + 1) st x =
      if st.err then (0, st) else if e.ridx.isEmpty then (0, { st with err := true }) else
      match dlWrite st x with
      | (none, st1) => (0, st1)
      | (some wb, st1) => cont e F wb st1 x := by
  rw [dlWriteRange]; rfl

theorem dwr_step (e : Env) (F : Nat) (st st1 : St) (at_ : Bytes) (wb : Nat)
    (he : st.err = false) (hr : e.ridx.isEmpty = false) (hw : dlWrite st at_ = (some wb, st1)) :
    dlWriteRange e (F + 1) st at_ = cont e F wb st1 at_ := by
  simp only [dwr_succ, he, hr, hw, Bool.false_eq_true, ↓reduceIte]

theorem dwr_lift (e : Env) {P : St → Prop} (err : ∀ st, P st → P { st with err := true })
    (write : ∀ st x, P st → P (dlWrite st x).2) (select : ∀ st, P st → st.writeInChunk = 0 → P (dlSelect e st).2)
    (F : Nat) (st : St) (x : Bytes) (hf : dneed st x ≤ F ∨ ∀ s, P s → P { s with ub := true }) (h : P st) :
      P (dlWriteRange e F st x).2 := by
  have hsel : ∀ {st x wb st1}, P st → dlWrite st x = (some wb, st1) → P (sel e st1).2 := fun {st x wb st1} h hw => by
    have h1 : P st1 := by have := write st x h; rwa [hw] at this
    unfold sel
    split
    · exact select st1 h1 ‹_›
    · exact h1
  fun_induction dlWriteRange e F st x with
  | case1 st x =>
    rcases hf with hf | hf
    · exact absurd hf (Nat.not_le_of_gt (dneed_pos))
    · exact hf _ h
  | case2 => exact h
  | case3 => exact err _ h
  | case4 F st x _ _ st1 hw => have := write st x h; rwa [hw] at this
  | case5 F st x _ _ wb st1 hw => exact hsel h hw
  | case6 F st x _ _ wb st1 hw r _ s2 hrec _ _ ih | case7 F st x _ _ wb st1 hw r _ s2 hrec _ _ ih =>
    exact ih (hf.imp_left (dneed_step hw hrec.1)) (hsel h hw)
  | case8 F st x _ _ wb st1 hw => exact hsel h hw

/-- the fields the write path of dl.c does not look at, taken from `a` -/
def aux (a : St) (st : St) : St := { st with mp := a.mp, boundary := a.boundary, hdrRx := a.hdrRx, dlRx := a.dlRx, endRx := a.endRx, dlBytes := a.dlBytes }

theorem aux_zeroChunk (e : Env) (a : St) (st : St) (c : Chunk) : zeroChunk e (aux a st) c = aux a (zeroChunk e st c) := rfl

theorem aux_setChunkValid (e : Env) (a : St) (st : St) (k : Nat) :
    setChunkValid e (aux a st) k = ((setChunkValid e st k).1, aux a (setChunkValid e st k).2) := by
  cases hc : e.hdr.chunks[k]? with
  | none => rw [setChunkValid_none e st k hc, setChunkValid_none e _ k hc]; rfl
  | some c =>
    rcases setChunkValid_spec e st k c hc with ⟨acc, hh, hd, heq⟩ | ⟨hd, heq⟩ <;>
      rcases setChunkValid_spec e (aux a st) k c hc with ⟨acc', hh', hd', heq'⟩ | ⟨hd', heq'⟩ <;> rw [heq, heq']
    · rfl
    · exact absurd hd (hd' acc hh)
    · exact absurd hd' (hd acc' hh')
    · rfl

theorem aux_dlWrite (a : St) (st : St) (x : Bytes) :
    dlWrite (aux a st) x = ((dlWrite st x).1, aux a (dlWrite st x).2) := by
  by_cases hw : st.writeInChunk = 0
  · rw [dlWrite_closed st x hw, dlWrite_closed (aux a st) x hw]
  · rw [dlWrite_open st x (Nat.pos_of_ne_zero hw), dlWrite_open (aux a st) x (Nat.pos_of_ne_zero hw)]
    dsimp only [aux, St.wrote]
    split
    · rfl
    · cases st.hash <;> rfl

theorem aux_dlVerify (e : Env) (a : St) (st : St) :
    dlVerify e (aux a st) = ((dlVerify e st).1, aux a (dlVerify e st).2) := by
  unfold dlVerify
  show (match st.tgtCheck with | some k => _ | none => _) = _
  cases st.tgtCheck with
  | some k => exact aux_setChunkValid e a st k
  | none => rfl

theorem aux_dlOpen (e : Env) (a : St) (st : St) : dlOpen e (aux a st) = aux a (dlOpen e st) := by
  rw [dlOpen_eq, dlOpen_eq, findNext_congr e st (aux a st) rfl rfl]
  show (match findNext e st (e.ridx.drop (st.from e)) (st.from e) with | some (j, rc) => _ | none => _) = _
  cases findNext e st (e.ridx.drop (st.from e)) (st.from e) with
  | none => rfl
  | some p => dsimp only; cases e.hdr.chunks[p.2.tgt]? <;> rfl

theorem aux_dlSelect (e : Env) (a : St) (st : St) :
    dlSelect e (aux a st) = ((dlSelect e st).1, aux a (dlSelect e st).2) := by
  unfold dlSelect
  simp only [aux_dlVerify]
  split
  · rfl
  · simp only [aux_dlOpen]

theorem aux_sel (e : Env) (a : St) (st : St) : sel e (aux a st) = ((sel e st).1, aux a (sel e st).2) := by
  unfold sel
  show (if st.writeInChunk = 0 then _ else _) = _
  split
  · exact aux_dlSelect e a st
  · rfl

theorem aux_dwr (e : Env) (a : St) : ∀ (F : Nat) (st : St) (x : Bytes),
    dlWriteRange e F (aux a st) x = ((dlWriteRange e F st x).1, aux a (dlWriteRange e F st x).2)
  | 0, st, x => rfl
  | F + 1, st, x => by
    rw [dwr_succ, dwr_succ, aux_dlWrite]
    show (if st.err then _ else _) = _
    cases st.err
    case true => rfl
    cases e.ridx.isEmpty
    case true => rfl
    rcases dlWrite st x with ⟨_ | wb, st1⟩
    · rfl
    show cont e F wb (aux a st1) x = ((cont e F wb st1 x).1, aux a (cont e F wb st1 x).2)
    unfold cont
    rw [aux_sel]
    generalize sel e st1 = r
    have hw2 : (aux a r.2).writeInChunk = r.2.writeInChunk := rfl
    by_cases hr1 : r.1 = true
    · by_cases hrec : r.2.writeInChunk > 0 ∧ wb < x.length
      · simp only [hr1, hw2, hrec, and_self, not_true_eq_false, ↓reduceIte, aux_dwr e a F, bump]
        split <;> rfl
      · simp only [hr1, hw2, hrec, not_true_eq_false, ↓reduceIte]
    · simp only [hr1, Bool.false_eq_true, not_false_eq_true, ↓reduceIte]

theorem dwr_keeps (e : Env) (F : Nat) (st : St) (x : Bytes) : aux st (dlWriteRange e F st x).2 = (dlWriteRange e F st x).2 :=
  (congrArg Prod.snd (aux_dwr e st F st x)).symm

/-- `h1`, `h2`: `g` changes only fields that `aux` replaces (for a field update both hold by `rfl`) -/
theorem dwr_update (e : Env) (g : St → St) (h1 : ∀ s, g s = aux (g s) s) (h2 : ∀ s t, aux (g s) (aux s t) = g (aux s t))
    (F : Nat) (s : St) (x : Bytes) : dlWriteRange e F (g s) x = ((dlWriteRange e F s x).1, g (dlWriteRange e F s x).2) := by
  rw [h1 s, aux_dwr, ← dwr_keeps e F s x, h2]

theorem dwr_mp (e : Env) (F : Nat) (st : St) (x : Bytes) : (dlWriteRange e F st x).2.mp = st.mp :=
  (congrArg St.mp (dwr_keeps e F st x)).symm
theorem dwr_dlRx (e : Env) (F : Nat) (st : St) (x : Bytes) : (dlWriteRange e F st x).2.dlRx = st.dlRx :=
  (congrArg St.dlRx (dwr_keeps e F st x)).symm
theorem dwr_endRx (e : Env) (F : Nat) (st : St) (x : Bytes) : (dlWriteRange e F st x).2.endRx = st.endRx :=
  (congrArg St.endRx (dwr_keeps e F st x)).symm
theorem dwr_boundary (e : Env) (F : Nat) (st : St) (x : Bytes) : (dlWriteRange e F st x).2.boundary = st.boundary :=
  (congrArg St.boundary (dwr_keeps e F st x)).symm

theorem dwr_fuel (e : Env) : ∀ (F F' : Nat) (st : St) (x : Bytes), dneed st x ≤ F → dneed st x ≤ F' →
    dlWriteRange e F st x = dlWriteRange e F' st x
  | 0, _, st, x, h, _ => absurd h (Nat.not_le_of_gt (dneed_pos))
  | _, 0, st, x, _, h => absurd h (Nat.not_le_of_gt (dneed_pos))
  | F + 1, F' + 1, st, x, hF, hF' => by
    rw [dwr_succ, dwr_succ]
    cases hw : dlWrite st x with
    | mk o st1 =>
      cases o with
      | none => rfl
      | some wb =>
        suffices h : cont e F wb st1 x = cont e F' wb st1 x by dsimp only; rw [h]
        unfold cont
        generalize sel e st1 = r
        dsimp only
        -- the two sides differ in the recursive call alone
        by_cases hrec : r.2.writeInChunk > 0 ∧ wb < x.length
        · rw [if_pos hrec, if_pos hrec, dwr_fuel e F F' _ _ (dneed_step hw hrec.1 hF) (dneed_step hw hrec.1 hF')]
        · rw [if_neg hrec, if_neg hrec]

theorem dwr_out (e : Env) (F : Nat) (st : St) (x : Bytes) :
    (dlWriteRange e F st x).1 ≤ x.length ∧ ((dlWriteRange e F st x).1 ≠ 0 → (dlWriteRange e F st x).2.err = false) := by
  fun_induction dlWriteRange e F st x with
  | case1 | case2 | case3 | case4 | case5 | case6 => exact ⟨Nat.zero_le _, fun h => absurd rfl h⟩
  | case7 F st x he hr wb st1 hw r hr1 s2 hrec r2 h0 ih =>
    have := ih.1
    rw [List.length_drop] at this
    exact ⟨by show wb + (dlWriteRange e F s2 (x.drop wb)).1 ≤ _; omega, fun _ => ih.2 h0⟩
  | case8 F st x he hr wb st1 hw r hr1 s2 hrec =>
    have h1 : wb ≤ x.length ∧ st1.err = st.err := by
      rcases dlWrite_some st st1 x wb hw with ⟨_, h, h'⟩ | ⟨_, _, h, _, _, h'⟩
      · exact ⟨by omega, by rw [h']⟩
      · exact ⟨h, h'⟩
    exact ⟨h1.1, fun _ => (sel_err e st1 (Classical.not_not.mp hr1)).trans (h1.2.trans (by simpa using he))⟩

theorem dwr_ridx (e : Env) (F : Nat) (st : St) (x : Bytes) (h : (dlWriteRange e F st x).1 ≠ 0) : e.ridx.isEmpty = false := by
  fun_induction dlWriteRange e F st x with
  | case1 | case2 | case3 | case4 | case5 | case6 => exact absurd rfl h
  | case7 F st x he hr | case8 F st x he hr => simpa using hr

end Zck.C05

namespace Zck.C17
open Zck.Dl Zck.C05

/-- C17: a terminator found at `j` has a byte behind it (`j + 4 < length`), so the store `j[3] = 0` is inside the buffer; not found
means within four bytes of the end -/
theorem scanFrom_spec : ∀ (bs : Bytes) (j : Nat),
    (∀ r, scanFrom bs j = .inl r → j ≤ r ∧ r + 4 ≥ j + bs.length) ∧
    (∀ r, scanFrom bs j = .inr r → j ≤ r ∧ r + 4 < j + bs.length)
  | [], j => ⟨fun r h => by cases h; exact ⟨Nat.le_refl _, Nat.le_add_right _ _⟩, fun r => nofun⟩
  | a :: bs, j => by
    have ih := scanFrom_spec bs (j + 1)
    rw [scanFrom_cons]
    by_cases h4 : bs.length < 4
    · rw [if_pos h4]
      exact ⟨fun r h => by cases h; exact ⟨Nat.le_refl _, Nat.add_le_add_left h4 j⟩, fun r => nofun⟩
    rw [if_neg h4]
    by_cases ht : (a :: bs).take 4 = [13, 10, 13, 10]
    · rw [if_pos ht]
      exact ⟨fun r => nofun, fun r h => by
        cases h; exact ⟨Nat.le_refl _, Nat.add_lt_add_left (Nat.lt_succ_of_le (Nat.le_of_not_lt h4)) j⟩⟩
    · rw [if_neg ht]
      exact ⟨fun r h => (ih.1 r h).imp Nat.le_of_succ_le (fun h => by rwa [Nat.add_right_comm] at h),
        fun r h => (ih.2 r h).imp Nat.le_of_succ_le (fun h => by rwa [Nat.add_right_comm] at h)⟩

theorem scanHdr_inl (buf : Bytes) (i j : Nat) (h : scanHdr buf i = .inl j) : j + 4 ≥ buf.length := by
  have := (scanFrom_spec (buf.drop i) i).1 j h
  simp only [List.length_drop] at this
  omega

theorem scanHdr_inr (buf : Bytes) (i j : Nat) (h : scanHdr buf i = .inr j) :
    i ≤ j ∧ j + 4 < buf.length := by
  have := (scanFrom_spec (buf.drop i) i).2 j h
  simp only [List.length_drop] at this
  omega

theorem mpPayload_size (e : Env) (buf : Bytes) (i hs : Nat) (st : St) (h0 : (mpPayload e buf i hs st).1 = 0) (hi : i < buf.length) :
    (mpPayload e buf i hs st).2.2.2.mp.state = 0 := by
  unfold mpPayload at h0 ⊢
  by_cases hle : st.mp.length ≤ buf.length - i
  · simp only [hle, ↓reduceIte]; rw [dwr_mp]
  · simp only [hle, ↓reduceIte] at h0; omega

/-- iterations the `while(i)` loop still needs from position `i` in parser state `state` (a bound): two per byte, a payload round and
a scan round, which is why `multipart_extract` is given `2 * length + 4` -/
def need (l i state : Nat) : Nat := if i ≥ l then 1 else 2 * (l - i) + (if state ≠ 0 then 1 else 0) + 1

theorem need_le (l i s : Nat) : need l i s ≤ 2 * (l - i) + 2 := by
  unfold need
  by_cases h : i ≥ l
  · rw [if_pos h]; exact Nat.le_add_left 1 _
  · rw [if_neg h]; exact Nat.succ_le_succ (Nat.add_le_add_left (by split <;> decide) _)

theorem need_pos {l i s : Nat} : 0 < need l i s := by
  unfold need; split <;> exact Nat.succ_pos _

theorem need_lt {l i s : Nat} (hi : i < l) : need l i s = 2 * (l - i) + (if s ≠ 0 then 1 else 0) + 1 := by
  unfold need; rw [if_neg (by omega)]

/-- why `need` is enough: a round that goes on has moved forward, or has left payload mode where it stood -/
theorem need_step {l i s i' s' F : Nat} (hi : i < l) (h : i < i' ∨ (i' = i ∧ s ≠ 0 ∧ s' = 0)) (hf : need l i s ≤ F + 1) :
    need l i' s' ≤ F := by
  rw [need_lt hi] at hf
  rcases h with h | ⟨rfl, hs, rfl⟩
  · have hf : 2 * (l - i) ≤ F := Nat.le_of_succ_le_succ (Nat.le_trans (Nat.succ_le_succ (Nat.le_add_right _ _)) hf)
    by_cases hl : i' ≥ l
    · unfold need; rw [if_pos hl]; omega
    · exact Nat.le_trans (need_le l i' s') (by omega)
  · rw [if_pos hs] at hf
    rw [need_lt hi, if_neg (by simp)]
    exact Nat.le_of_succ_le_succ hf

theorem mpLoop_lift (e : Env) {P : St → Prop} (payload : ∀ buf i hs st, P st → P (mpPayload e buf i hs st).2.2.2)
    (header : ∀ s st, P st → P (mpPartHeader e s st).2)
    (carry : ∀ (st : St) b, P st → P { st with mp := { st.mp with buffer := b } })
    (F : Nat) (buf : Bytes) (i hs : Nat) (st : St)
    (hf : need buf.length i st.mp.state ≤ F ∨ ∀ s, P s → P { s with ub := true }) (h : P st) :
    P (mpLoop e F buf i hs st).2 := by
  fun_induction mpLoop e F buf i hs st with
  | case1 =>
    rcases hf with hf | hf
    · exact absurd hf (Nat.not_le_of_gt (need_pos))
    · exact hf _ h
  | case2 => exact h
  | case3 F buf i hs st l hst hi size hs' ok st' hp =>
    have := payload buf i hs st h; rwa [hp] at this
  | case4 F buf i hs st l hst hi size hs' ok st' hp hok ih =>
    have h' := payload buf i hs st h
    have hsz := mpPayload_size e buf i hs st
    rw [hp] at h' hsz
    have hi : i < buf.length := Nat.lt_of_not_le hi
    refine ih (hf.imp_left (need_step hi ?_)) h'
    by_cases h0 : size = 0
    · exact .inr ⟨by rw [h0]; rfl, hst, hsz h0 hi⟩
    · exact .inl (Nat.lt_add_of_pos_right (Nat.pos_of_ne_zero h0))
  | case5 F buf i hs st l hst hi => split; exact carry _ _ h; exact h
  | case6 F buf i hs st l hst hi j hj ih =>
    have hi : i < buf.length := Nat.lt_of_not_le hi
    exact ih (hf.imp_left (need_step hi (.inl (Nat.lt_of_lt_of_le hi (scanHdr_inl buf i j hj))))) h
  | case7 F buf i hs st l hst hi j hj buf' st' hp => have := header (cstr (buf'.drop i)) st h; rwa [hp] at this
  | case8 F buf i hs st l hst hi j hj buf' st' hp ih =>
    have h' := header (cstr (buf'.drop i)) st h
    rw [hp] at h'
    refine ih (hf.imp_left fun hf => ?_) h'
    rw [show buf'.length = buf.length from List.length_set]
    exact need_step (Nat.lt_of_not_le hi) (.inl (Nat.lt_succ_of_le (Nat.le_add_right_of_le (scanHdr_inr buf i j hj).1))) hf

end Zck.C17

namespace Zck.Dl

theorem cstr_append_zero (a b : Bytes) : cstr (a ++ 0 :: b) = cstr (a ++ [0]) := by
  unfold cstr
  induction a with
  | nil => simp
  | cons x xs ih =>
    simp only [List.cons_append, List.takeWhile_cons]
    split
    · rw [ih]
    · rfl

theorem length_cstr_le : ∀ (l : Bytes) (n : Nat), l[n]? = some 0 → (cstr l).length ≤ n
  | [], _, h => by simp at h
  | a :: l, 0, h => by
    rw [List.getElem?_cons_zero, Option.some.injEq] at h
    rw [h]; exact Nat.le_refl 0
  | a :: l, n + 1, h => by
    unfold cstr
    rw [List.takeWhile_cons]
    split
    · exact Nat.succ_le_succ (length_cstr_le l n h)
    · exact Nat.zero_le _

theorem scanFrom_add : ∀ (bs : Bytes) (j k : Nat),
    scanFrom bs (k + j) = match scanFrom bs j with | .inl r => .inl (k + r) | .inr r => .inr (k + r)
  | [], _, _ => rfl
  | a :: bs, j, k => by
    rw [scanFrom_cons, scanFrom_cons]
    split
    · rfl
    · split
      · rfl
      · exact scanFrom_add bs (j + 1) k

theorem scanHdr_drop (buf : Bytes) (k i : Nat) :
    scanHdr buf (k + i) = match scanHdr (buf.drop k) i with | .inl r => .inl (k + r) | .inr r => .inr (k + r) := by
  unfold scanHdr
  rw [List.drop_drop, scanFrom_add]

/-- `hs` on the right is any: the components taken there do not depend on it -/
theorem mpPayload_drop (e : Env) (k : Nat) (buf : Bytes) (i hs hs' : Nat) (st : St) :
    mpPayload e buf (k + i) hs' st =
      ((mpPayload e (buf.drop k) i hs st).1,
       if st.mp.length ≤ buf.length - (k + i) then k + (i + st.mp.length) else hs',
       (mpPayload e (buf.drop k) i hs st).2.2.1, (mpPayload e (buf.drop k) i hs st).2.2.2) := by
  unfold mpPayload
  simp only [List.length_drop, Nat.sub_sub, List.drop_drop]
  by_cases h : st.mp.length ≤ buf.length - (k + i)
  · simp only [h, ↓reduceIte, Nat.add_assoc]
  · simp only [h, ↓reduceIte]

theorem mpPayload_hs (e : Env) (buf : Bytes) (i hs : Nat) (st : St) :
    (mpPayload e buf i hs st).2.1 = (if st.mp.length ≤ buf.length - i then i + st.mp.length else hs) ∧
    (mpPayload e buf i hs st).2.2.2.mp.state = (if st.mp.length ≤ buf.length - i then 0 else st.mp.state) := by
  unfold mpPayload
  by_cases h : st.mp.length ≤ buf.length - i <;> simp only [h, ↓reduceIte, C05.dwr_mp, and_self]

/-- the loop does not look behind `i`.  The second alternative of the hypothesis: in payload mode `header_start` is not looked at
before it is set anew -/
theorem mpLoop_drop (e : Env) (k : Nat) (fuel : Nat) (buf : Bytes) (i hs hs' : Nat) (st : St)
    (h : hs' = k + hs ∨ st.mp.state ≠ 0) : mpLoop e fuel buf (k + i) hs' st = mpLoop e fuel (buf.drop k) i hs st := by
  generalize hb : buf.drop k = b
  have hge : ∀ (buf b : Bytes) i, buf.drop k = b → ((k + i ≥ buf.length) ↔ (i ≥ b.length)) := fun buf b i hb => by
    rw [← hb, List.length_drop]; omega
  have hset : ∀ (buf b : Bytes) j, buf.drop k = b → (buf.set (k + j + 3) 0).drop k = b.set (j + 3) 0 := fun buf b j hb => by
    rw [← hb, List.drop_set, if_neg (by omega), show k + j + 3 - k = j + 3 by omega]
  fun_induction mpLoop e fuel b i hs st generalizing buf hs' with
  | case1 => rfl
  | case2 F b i hs st l hst hi => rw [mpLoop, if_pos hst, if_pos ((hge buf b i hb).mpr hi)]
  | case3 F b i hs st l hst hi size hs2 ok st' hp hok =>
    rw [mpLoop, if_pos hst, if_neg (mt (hge buf b i hb).mp hi), mpPayload_drop, hb, hp]; simp only [hok]; rfl
  | case4 F b i hs st l hst hi size hs2 ok st' hp hok ih =>
    rw [mpLoop, if_pos hst, if_neg (mt (hge buf b i hb).mp hi), mpPayload_drop, hb, hp]; simp only [hok]
    rw [Nat.add_assoc]
    refine ih buf _ ?_ hb
    have hq := mpPayload_hs e b i hs st
    rw [hp, ← hb, List.length_drop, Nat.sub_sub] at hq
    by_cases hl : st.mp.length ≤ buf.length - (k + i)
    · simp only [if_pos hl] at hq ⊢; exact .inl (congrArg _ hq.1.symm)
    · simp only [if_neg hl] at hq ⊢; exact .inr (hq.2 ▸ hst)
  | case5 F b i hs st l hst hi =>
    rw [mpLoop, if_neg hst, if_pos ((hge buf b i hb).mpr hi), h.resolve_right hst]
    simp only [l, ← hb, List.length_drop, List.drop_drop, Nat.sub_sub]
  | case6 F b i hs st l hst hi j hj ih =>
    rw [mpLoop, if_neg hst, if_neg (mt (hge buf b i hb).mp hi), scanHdr_drop, hb, hj]
    dsimp only
    rw [Nat.add_assoc]
    exact ih buf hs' h hb
  | case7 F b i hs st l hst hi j hj buf' st' hp =>
    rw [mpLoop, if_neg hst, if_neg (mt (hge buf b i hb).mp hi), scanHdr_drop, hb, hj]
    dsimp only
    rw [← List.drop_drop, hset buf b j hb, hp]
  | case8 F b i hs st l hst hi j hj buf' st' hp ih =>
    rw [mpLoop, if_neg hst, if_neg (mt (hge buf b i hb).mp hi), scanHdr_drop, hb, hj]
    dsimp only
    rw [← List.drop_drop, hset buf b j hb, hp, Nat.add_assoc]
    exact ih _ hs' (.inl (h.resolve_right hst)) (hset buf b j hb)
theorem writeChunkCb_lift (e : Env) {P : St → Prop} (count : ∀ (st : St) n, P st → P { st with dlBytes := n })
    (mp : ∀ st b, P st → P (mpExtract e st b).2) (single : ∀ st b, P st → P (dlWriteRange e (2 * b.length + 2) st b).2)
    (st : St) (b : Bytes) (h : P st) : P (writeChunkCb e st b).2 := by
  unfold writeChunkCb
  dsimp only
  split
  · exact mp _ b (count st _ h)
  · exact single _ b (count st _ h)

theorem feed_lift (e : Env) {P : St → Prop} (cb : ∀ st b, P st → P (writeChunkCb e st b).2)
    (clr : ∀ (st : St), P st → P { st with err := false }) (stop clear : Bool) :
    ∀ (frags : List Bytes) (st : St) (acc : List Nat), P st → P (feed e stop clear st frags acc).2
  | [], _, _, h => h
  | b :: rest, st, acc, h => by
    unfold feed
    have h1 := cb st b h
    generalize writeChunkCb e st b = r at h1 ⊢
    dsimp only
    by_cases hs : r.1 ≠ b.length ∧ stop = true
    · rw [if_pos hs]; exact h1
    · rw [if_neg hs]
      apply feed_lift e cb clr stop clear rest
      split
      · exact clr _ h1
      · exact h1

theorem feedHdrs_lift (e : Env) {P : St → Prop} (cb : ∀ st b, P st → P (getBoundary e st b)) :
    ∀ (lines : List Bytes) (st : St) (acc : List Nat), P st → P (feedHdrs e st lines acc).2
  | [], _, _, h => h
  | b :: rest, st, _, h => feedHdrs_lift e cb rest _ _ (cb st b h)

/-- the fields the write path of dl.c reads and writes -/
def St.core (st : St) : Bytes × Nat × List Int × Option Bytes × Nat × Option Nat :=
  (st.file, st.pos, st.valid, st.hash, st.writeInChunk, st.tgtCheck)

theorem mpPartHeader_core (e : Env) (s : Bytes) (st : St) : (mpPartHeader e s st).2.core = st.core := by
  unfold mpPartHeader
  repeat' split
  all_goals rfl

theorem mpJoin_core (st : St) (b : Bytes) : (mpJoin st b).2.core = st.core := by
  unfold mpJoin; split <;> rfl

theorem genRegex_core (e : Env) (st : St) : (genRegex e st).2.core = st.core := by
  unfold genRegex
  by_cases h1 : ¬ e.rx.comp (partPattern (st.boundary.getD [])) = true
  · rw [if_pos h1]; rfl
  · rw [if_neg h1]; split <;> rfl

theorem mpEnsureRx_core (e : Env) (st : St) : (mpEnsureRx e st).2.core = st.core := by
  unfold mpEnsureRx; split
  · exact genRegex_core e st
  · rfl

theorem hdrEnsureRx_core (e : Env) (st st1 : St) (h : hdrEnsureRx e st = some st1) : st1.core = st.core := by
  unfold hdrEnsureRx at h
  split at h
  · split at h
    · cases h; rfl
    · cases h
  · cases h; rfl

theorem getBoundary_core (e : Env) (st : St) (b : Bytes) : (getBoundary e st b).core = st.core := by
  unfold getBoundary
  by_cases he : st.err = true
  · rw [if_pos he]
  · rw [if_neg he]
    cases heq : hdrEnsureRx e st with
    | none => rfl
    | some st1 =>
      rw [← hdrEnsureRx_core e st st1 heq]
      dsimp only
      by_cases hb : st1.hdrRx = .broken
      · rw [if_pos hb]; rfl
      · rw [if_neg hb]
        cases e.rx.hdr (cstr b) with
        | none => rfl
        | some p => dsimp only; split <;> rfl

/-- the context once the constant header pattern is compiled -/
def hdrReady (st : St) : St := { st with hdrRx := .ok hdrPattern }

theorem getBoundary_none (e : Env) (st : St) (b : Bytes) (he : st.err = false) (hc : e.rx.comp hdrPattern = true)
    (hrx : st.hdrRx = .null ∨ st.hdrRx = .ok hdrPattern) (hn : e.rx.hdr (cstr b) = none) :
    getBoundary e st b = hdrReady st := by
  cases st
  subst he
  rcases hrx with h | h <;> subst h <;> simp [getBoundary, hdrEnsureRx, hdrReady, hc, hn]

theorem getBoundary_some (e : Env) (st : St) (b : Bytes) (so eo : Nat) (he : st.err = false) (hc : e.rx.comp hdrPattern = true)
    (hrx : st.hdrRx = .null ∨ st.hdrRx = .ok hdrPattern) (hm : e.rx.hdr (cstr b) = some (so, eo))
    (hso : so ≤ eo ∧ eo ≤ (cstr b).length) :
    getBoundary e st b = { hdrReady st with mp := {}, boundary := some (boundaryOf (cstr b) so eo) } := by
  cases st
  subst he
  rcases hrx with h | h <;> subst h <;> simp [getBoundary, hdrEnsureRx, hdrReady, hc, hm, hso]

/-- `hdrReady st = st`: the header pattern is compiled -/
theorem feedHdrs_quiet (e : Env) (hc : e.rx.comp hdrPattern = true) : ∀ (lines : List Bytes) (st : St) (acc : List Nat),
    st.err = false → hdrReady st = st → (∀ l ∈ lines, e.rx.hdr (cstr l) = none) →
    feedHdrs e st lines acc = (acc.reverse ++ lines.map List.length, st)
  | [], st, acc, _, _, _ => by simp [feedHdrs]
  | l :: rest, st, acc, he, hr, hn => by
    simp only [feedHdrs, headerCb]
    rw [getBoundary_none e st l he hc (Or.inr (by rw [← hr]; rfl)) (hn l List.mem_cons_self), hr,
      feedHdrs_quiet e hc rest st _ he hr fun l' h => hn l' (List.mem_cons_of_mem _ h)]
    simp

end Zck.Dl
