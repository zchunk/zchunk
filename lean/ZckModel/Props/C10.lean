/-
C10 — Missing-range requests cover exactly the missing chunks.

Shape: the model of range.c REFINES the specification `specSt/specOut` (the coalesced extents of
a prefix of the missing chunks): its loop computes `specSt (covered ..)` (`loop_spec`), and `covered` takes a prefix
within the bounds the property states (`covered_spec`); the specification has the other laws
(ascending / disjoint / non-adjacent, exact cover, rendering, range index).  That `range_add` of an extent above
the ranges present appends it as `snoc` does is in ZckModel/RangeLemmas.lean.
-/
import ZckModel.RangeLemmas

namespace Zck.C10
open Zck.Range

/-- `start` is the running sum of stored sizes (index_common.c `finish_chunk`) -/
def RunSum : Nat → List Chunk → Prop
  | _, [] => True
  | base, c :: rest => c.start = base ∧ RunSum (base + c.compLen) rest

def total : List Chunk → Nat
  | [] => 0
  | c :: rest => c.compLen + total rest

/-- extents from `lo` upward, non-empty and in order; consecutive ones may touch -/
def AscFrom : Nat → List Ext → Prop
  | _, [] => True
  | lo, x :: rest => lo ≤ x.start ∧ 0 < x.len ∧ AscFrom (x.start + x.len) rest

theorem specRangesFrom_append (rs : List (Nat × Nat)) (a b : List Ext) :
    specRangesFrom rs (a ++ b) = specRangesFrom (specRangesFrom rs a) b := by
  induction a generalizing rs with
  | nil => rfl
  | cons x a ih => simp only [List.cons_append, specRangesFrom, ih]

theorem specRanges_snoc (done : List Ext) (x : Ext) :
    specRanges (done ++ [x]) = snoc (specRanges done) x.start (x.start + x.len - 1) := by
  unfold specRanges
  rw [specRangesFrom_append]
  rfl

theorem specFrom_laws (lo : Nat) (exts : List Ext) (rs : List (Nat × Nat))
    (hs : Sorted rs) (hb : EndsBelow rs lo) (ha : AscFrom lo exts) :
    Sorted (specRangesFrom rs exts) ∧
    ∀ x, covers (specRangesFrom rs exts) x ↔
      covers rs x ∨ ∃ e ∈ exts, e.start ≤ x ∧ x < e.start + e.len := by
  induction exts generalizing lo rs with
  | nil => exact ⟨hs, fun x => by simp [specRangesFrom]⟩
  | cons e rest ih =>
    obtain ⟨h1, h2, h3⟩ := ha
    have hb' : EndsBelow rs e.start := hb.mono h1
    have hse : e.start ≤ e.start + e.len - 1 := Nat.le_sub_one_of_lt (Nat.lt_add_of_pos_right h2)
    have ⟨hs2, hb2⟩ := snoc_sorted rs e.start (e.start + e.len - 1) hs hb' hse
    have ⟨r1, r2⟩ := ih (e.start + e.len) _ hs2 (hb2.mono (by omega)) h3
    refine ⟨r1, fun x => ?_⟩
    have hx : (e.start ≤ x ∧ x ≤ e.start + e.len - 1) ↔ (e.start ≤ x ∧ x < e.start + e.len) := by omega
    simp only [specRangesFrom, r2 x, snoc_covers rs _ _ x hs hb' hse, hx, List.mem_cons, exists_eq_or_imp, or_assoc]

/-- consecutive ranges `(a,b),(c,d)` of the specified request satisfy `a ≤ b` and `b + 1 < c`: ascending, not overlapping,
not adjacent -/
theorem sorted_disjoint_nonadjacent (lo : Nat) (exts : List Ext) (ha : AscFrom lo exts) :
    Sorted (specRanges exts) :=
  (specFrom_laws lo exts [] trivial (fun _ h => nomatch h) ha).1

/-- a byte is requested iff it lies in the extent of one of the covered chunks: never the header, never a valid chunk's
bytes -/
theorem cover_exact (lo : Nat) (exts : List Ext) (ha : AscFrom lo exts) (x : Nat) :
    covers (specRanges exts) x ↔ ∃ e ∈ exts, e.start ≤ x ∧ x < e.start + e.len :=
  ((specFrom_laws lo exts [] trivial (fun _ h => nomatch h) ha).2 x).trans (or_iff_right fun ⟨_, h, _⟩ => nomatch h)

theorem missingExt_cons (H : Nat) (c : Chunk) (rest : List Chunk) :
    missingExt H (c :: rest) =
      if c.valid = 0 ∧ c.compLen ≠ 0 then ⟨c.number, c.start + H, c.compLen⟩ :: missingExt H rest else missingExt H rest := by
  unfold missingExt
  split <;> simp_all

theorem AscFrom.mono {lo lo' : Nat} {l : List Ext} (hle : lo' ≤ lo) (h : AscFrom lo l) : AscFrom lo' l := by
  cases l with
  | nil => trivial
  | cons x r => exact ⟨Nat.le_trans hle h.1, h.2⟩

theorem AscFrom.take : ∀ (l : List Ext) (lo k : Nat), AscFrom lo l → AscFrom lo (l.take k)
  | [], _, _, _ => by simp [AscFrom]
  | x :: l, lo, 0, _ => by simp [AscFrom]
  | x :: l, lo, k + 1, h => ⟨h.1, h.2.1, AscFrom.take l _ k h.2.2⟩

theorem AscFrom.pos : ∀ (l : List Ext) (lo : Nat), AscFrom lo l → ∀ x ∈ l, 0 < x.len
  | [], _, _, x, hx => by simp at hx
  | y :: l, lo, h, x, hx => by
    rcases List.mem_cons.mp hx with rfl | hx'
    · exact h.2.1
    · exact AscFrom.pos l _ h.2.2 x hx'

theorem missingExt_asc (H base : Nat) (chunks : List Chunk) (hr : RunSum base chunks) :
    AscFrom (base + H) (missingExt H chunks) := by
  induction chunks generalizing base with
  | nil => trivial
  | cons c rest ih =>
    obtain ⟨rfl, h2⟩ := hr
    have hrec := ih (c.start + c.compLen) h2
    rw [missingExt_cons]
    split
    · rename_i hc
      exact ⟨Nat.le_refl _, Nat.pos_of_ne_zero hc.2, Nat.add_right_comm .. ▸ hrec⟩
    · exact hrec.mono (by omega)

/-- the `size_t` arithmetic of `range_add` on an extent `[a, a + n)` that does not wrap -/
theorem ext_arith (a n M : Nat) (hn : 0 < n) (h : a + n < M) :
    a % M = a ∧ (a + n) % M = a + n ∧ (a + n - 1 + M - a + 1) % M = n := by
  refine ⟨Nat.mod_eq_of_lt (Nat.lt_of_le_of_lt (Nat.le_add_right a n) h), Nat.mod_eq_of_lt h, ?_⟩
  rw [show a + n - 1 + M - a + 1 = n + M by omega, Nat.add_mod_right]
  exact Nat.mod_eq_of_lt (by omega)

theorem add_spec (done : List Ext) (c : Chunk) (H : Nat)
    (hs : Sorted (specRanges done)) (hb : EndsBelow (specRanges done) (c.start + H))
    (hlen : 0 < c.compLen) (hbound : c.start + H + c.compLen < 2^64) :
    add (specSt done) c H = specSt (done ++ [⟨c.number, c.start + H, c.compLen⟩]) := by
  obtain ⟨e1, e2, e4⟩ := ext_arith (c.start + H) c.compLen (2^64) hlen hbound
  have e3 : wsub1 (c.start + H + c.compLen) = c.start + H + c.compLen - 1 := wsub1_pos _ (Nat.add_pos_right _ hlen)
  unfold add
  simp only [specSt, e1, e2, e3, walk_append _ _ _ hs hb, ↓reduceIte, e4]
  rw [merge_append _ _ _ hs hb (Nat.le_sub_one_of_lt (Nat.lt_add_of_pos_right hlen)), specRanges_snoc]
  simp only [List.map_append, List.map_cons, List.map_nil]

theorem specSt_count (exts : List Ext) : (specSt exts).count = (specRanges exts).length := rfl

theorem missingLoop_cons (H : Nat) (limit : Int) (c : Chunk) (rest : List Chunk) (st : RSt) :
    missingLoop H limit (c :: rest) st =
      if c.valid = 0 ∧ c.compLen ≠ 0 then
        if limit ≥ 0 ∧ ((add st c H).count : Int) ≥ limit then add st c H else missingLoop H limit rest (add st c H)
      else missingLoop H limit rest st := by
  by_cases h1 : c.valid = 0 <;> by_cases h2 : c.compLen = 0 <;> simp [missingLoop, h1, h2]

/-- the loop of `zck_get_missing_range` on the side of the specification: the extents the request covers in the end,
when it covers `done` so far and `exts` are still to come -/
def covered (limit : Int) : List Ext → List Ext → List Ext
  | done, [] => done
  | done, x :: rest =>
    if limit ≥ 0 ∧ ((specRanges (done ++ [x])).length : Int) ≥ limit then done ++ [x] else covered limit (done ++ [x]) rest

theorem loop_spec (H : Nat) (limit : Int) (chunks : List Chunk) (base : Nat) (done : List Ext)
    (hrs : RunSum base chunks) (hbound : base + H + total chunks < 2^64)
    (hs : Sorted (specRanges done)) (hb : EndsBelow (specRanges done) (base + H)) :
    missingLoop H limit chunks (specSt done) = specSt (covered limit done (missingExt H chunks)) := by
  induction chunks generalizing base done with
  | nil => rfl
  | cons c rest ih =>
    obtain ⟨rfl, h2⟩ := hrs
    simp only [total] at hbound
    rw [missingLoop_cons, missingExt_cons]
    by_cases hv : c.valid = 0 ∧ c.compLen ≠ 0
    · have hpos := Nat.pos_of_ne_zero hv.2
      have ⟨hs', hb'⟩ := snoc_sorted _ _ _ hs hb (Nat.le_sub_one_of_lt (Nat.lt_add_of_pos_right hpos))
      rw [← specRanges_snoc done ⟨c.number, c.start + H, c.compLen⟩] at hs' hb'
      rw [if_pos hv, if_pos hv, add_spec done c H hs hb hpos (by omega), covered, specSt_count]
      by_cases hbr : limit ≥ 0 ∧ ((specRanges (done ++ [⟨c.number, c.start + H, c.compLen⟩])).length : Int) ≥ limit
      · rw [if_pos hbr, if_pos hbr]
      · rw [if_neg hbr, if_neg hbr]
        exact ih (c.start + c.compLen) _ h2 (by omega) hs' (hb'.mono (by omega))
    · rw [if_neg hv, if_neg hv]
      exact ih (c.start + c.compLen) done h2 (by omega) hs (hb.mono (by omega))

theorem imax_spec (limit : Int) : 0 < imax limit ∧ limit ≤ (imax limit : Int) := by
  unfold imax; split <;> omega

/-- the loop goes on only with fewer ranges than `imax limit`, and an extent adds at most one range -/
theorem covered_spec (limit : Int) (exts done : List Ext)
    (hinv : 0 ≤ limit → (specRanges done).length < imax limit) :
    ∃ k, k ≤ exts.length ∧ (limit < 0 → k = exts.length) ∧ (exts ≠ [] → 0 < k) ∧
      (0 ≤ limit → (specRanges (done ++ exts.take k)).length ≤ imax limit) ∧
      covered limit done exts = done ++ exts.take k := by
  induction exts generalizing done with
  | nil =>
    refine ⟨0, Nat.le_refl _, fun _ => rfl, fun h => absurd rfl h, fun hl => ?_, (List.append_nil _).symm⟩
    rw [List.take_zero, List.append_nil]
    exact Nat.le_of_lt (hinv hl)
  | cons x rest ih =>
    unfold covered
    by_cases hbr : limit ≥ 0 ∧ ((specRanges (done ++ [x])).length : Int) ≥ limit
    · rw [if_pos hbr]
      refine ⟨1, Nat.succ_le_succ (Nat.zero_le _), fun hl => absurd hbr.1 (Int.not_le.2 hl), fun _ => Nat.one_pos,
        fun hl => ?_, rfl⟩
      have hlen := snoc_length (specRanges done) x.start (x.start + x.len - 1)
      rw [← specRanges_snoc] at hlen
      have := hinv hl
      show (specRanges (done ++ [x])).length ≤ _
      omega
    · rw [if_neg hbr]
      obtain ⟨k, hk1, hk2, _, hk4, hk5⟩ := ih (done ++ [x]) fun hl => by have := (imax_spec limit).2; omega
      rw [List.append_assoc] at hk4 hk5
      exact ⟨k + 1, Nat.succ_le_succ hk1, fun hl => congrArg Nat.succ (hk2 hl), fun _ => Nat.succ_pos _, hk4, hk5⟩

/-- for every parsed index (starts = running sums, file shorter than 2^64), every
validity marking and every limit, `zck_get_missing_range` produces exactly the specified request
for some prefix of the missing chunks: all of them when unlimited, at least one when any is
missing, at most max(limit,1) separate ranges; `count` is the number of ranges and the range index
lists the covered chunks in request order with their stored sizes. -/
theorem missing_spec (H : Nat) (chunks : List Chunk) (limit : Int)
    (hrs : RunSum 0 chunks) (hbound : H + total chunks < 2^64) :
    ∃ k, k ≤ (missingExt H chunks).length ∧
      (limit < 0 → k = (missingExt H chunks).length) ∧
      (missingExt H chunks ≠ [] → 0 < k) ∧
      (0 ≤ limit → (specRanges ((missingExt H chunks).take k)).length ≤ imax limit) ∧
      missing H chunks limit = specSt ((missingExt H chunks).take k) := by
  obtain ⟨k, h1, h2, h3, h4, h5⟩ := covered_spec limit (missingExt H chunks) [] fun _ => (imax_spec limit).1
  refine ⟨k, h1, h2, h3, h4, ?_⟩
  rw [missing, show RSt.empty = specSt [] from rfl,
    loop_spec H limit chunks 0 [] hrs (by omega) trivial (fun _ h => nomatch h), h5, List.nil_append]

theorem renderLoop_eq (items : List (Nat × Nat)) (buf loc : Nat) (acc : List Char) (h : 2 ≤ buf) :
    renderLoop items buf loc acc = some (acc ++ items.flatMap (fun p => (itemText p).toList)) := by
  fun_induction renderLoop items buf loc acc with
  | case1 => simp
  | case2 p rest buf loc acc hfit hgrow ih => exact ih (by omega)
  | case3 p rest buf loc acc hfit hgrow => omega
  | case4 p rest buf loc acc hfit ih => rw [ih h]; simp

theorem itemText_toList (p : Nat × Nat) :
    (itemText p).toList = (toString p.1).toList ++ '-' :: (toString p.2).toList ++ [','] := by
  simp [itemText, String.toList_append]

theorem flatMap_dropLast (items : List (Nat × Nat)) (h : items ≠ []) :
    (items.flatMap (fun p => (itemText p).toList)).dropLast = specChars items := by
  induction items with
  | nil => exact absurd rfl h
  | cons p rest ih =>
    cases rest with
    | nil =>
      simp only [List.flatMap_cons, List.flatMap_nil, List.append_nil, itemText_toList, specChars]
      exact List.dropLast_concat
    | cons q r =>
      have := ih (by simp)
      simp only [List.flatMap_cons, specChars] at this ⊢
      rw [List.dropLast_append_of_ne_nil (by simp [itemText_toList]), this, itemText_toList]
      simp

/-- the generated `BUF_SIZE` lets the buffer grow (otherwise the C loop would spin) -/
theorem buf_size_grows : 2 ≤ Zck.Gen.BUF_SIZE := by decide

/-- `zck_get_range_char` yields the comma-separated `start-end` list of exactly the ranges, whatever the buffer growth -/
theorem render_exact (items : List (Nat × Nat)) (h : items ≠ []) :
    render items = some (String.ofList (specChars items)) := by
  unfold render
  rw [renderLoop_eq items _ 0 [] buf_size_grows]
  simp only [List.nil_append]
  rw [flatMap_dropLast items h]

/-- the predicate the driver evaluates on the implementation's output holds of the model's output -/
theorem c10_model_ok (H : Nat) (chunks : List Chunk) (limit : Int)
    (hrs : RunSum 0 chunks) (hbound : H + total chunks < 2^64) :
    c10_ok H chunks limit (modelOut H chunks limit) = true := by
  obtain ⟨k, hk1, hk2, hk3, hk4, hk5⟩ := missing_spec H chunks limit hrs hbound
  have hlen : ((missingExt H chunks).take k).length = k := by simp; omega
  unfold c10_ok modelOut
  simp only [hk5, specSt, List.length_map, hlen, Bool.and_eq_true, decide_eq_true_eq,
    Bool.or_eq_true, beq_iff_eq]
  refine ⟨⟨⟨⟨hk1, Decidable.or_iff_not_imp_left.2 fun h => hk2 (Int.not_le.1 h)⟩,
    Decidable.or_iff_not_imp_left.2 fun h => hk3 fun he => h (by rw [he]; rfl)⟩,
    Decidable.or_iff_not_imp_left.2 fun h => hk4 (Int.not_lt.1 h)⟩, ?_⟩
  congr 1
  split
  · rfl
  · rename_i hne
    exact render_exact _ (by intro h; simp [h] at hne)

/-! Non-vacuity: a concrete index meets the hypotheses of `missing_spec`, and the model's output is a non-trivial request -/

def exChunks : List Chunk :=
  [⟨0, 0, 0, 0⟩, ⟨1, 0, 100, 0⟩, ⟨2, 100, 50, 1⟩, ⟨3, 150, 7, 0⟩, ⟨4, 157, 9, 0⟩, ⟨5, 166, 4, -1⟩, ⟨6, 170, 1, 0⟩]

example : RunSum 0 exChunks ∧ 135 + total exChunks < 2^64 := by simp [RunSum, exChunks, total]
example : (missing 135 exChunks (-1)).items = [(135, 234), (285, 300), (305, 305)] := by decide +kernel
example : (missing 135 exChunks 2).items = [(135, 234), (285, 291)] := by decide +kernel
example : (missing 135 exChunks 2).index = [(1, 100), (3, 7)] := by decide +kernel
example : (missing 135 exChunks 0).count = 1 := by decide

end Zck.C10
