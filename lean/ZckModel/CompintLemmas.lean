/- Lemmas about the compressed-integer codec (`Compint.lean`): the loop of `compint_to_size` computes the specification `value`
(`decLoop_spec`, through `specFrom`: the specification seen from a loop state), hence the two decoders equal `C20.specDec` on the
window they may look at; what `enc` writes is read back by `value`. -/
import ZckModel.Compint
import ZckModel.Pred.C20

namespace Zck.Compint

theorem MAXC_eq : MAXC = 10 := by decide

/-- The model and its theorems are written for the 64-bit `size_t` (and 32-bit `int`) the constants are generated for; if a
generated value changes this obligation fails. -/
theorem sizeT_is_64 : Zck.Gen.SIZEOF_SIZE_T = 8 ∧ Zck.Gen.SIZEOF_INT = 4 := by decide

theorem window_drop_nil (m : Bytes) (pos maxLen k : Nat) (h : pos + k ≥ maxLen) :
    (window m pos maxLen).drop k = [] := by
  unfold window
  rw [List.drop_drop, List.drop_eq_nil_iff, List.length_take]
  exact Nat.le_trans (Nat.min_le_left _ _) h

theorem window_drop_cons (m : Bytes) (pos maxLen k : Nat) (h : pos + k < maxLen)
    (hm : maxLen ≤ m.length) :
    ∃ b, m[pos + k]? = some b ∧ (window m pos maxLen).drop k = b :: (window m pos maxLen).drop (k+1) := by
  have hlt : pos + k < m.length := Nat.lt_of_lt_of_le h hm
  have h1 : pos + k < (m.take maxLen).length := by rw [List.length_take]; exact Nat.lt_min.mpr ⟨h, hlt⟩
  refine ⟨m[pos + k], List.getElem?_eq_getElem hlt, ?_⟩
  unfold window
  rw [List.drop_drop, List.drop_drop, List.drop_eq_getElem_cons h1, List.getElem_take]
  rfl

theorem window_eq (m : Bytes) (pos maxLen : Nat) : window m pos maxLen = (m.drop pos).take (maxLen - pos) :=
  List.drop_take ..

theorem shift_check (c count : Nat) :
    c > (2^64 - 1) >>> (7 * count) ↔ 2^64 ≤ c * 128 ^ count := by
  rw [Nat.shiftRight_eq_div_pow, Nat.pow_mul, gt_iff_lt, Nat.div_lt_iff_lt_mul (Nat.pow_pos (by decide))]
  show 2^64 - 1 < c * 128^count ↔ _
  omega

theorem add_mul_lt {K q val c : Nat} (hv : val < K) (h : c * K < q * K) : val + c * K < q * K := by
  have := Nat.mul_le_mul_right K (Nat.lt_of_mul_lt_mul_right h)
  rw [Nat.succ_mul] at this
  omega

/-- `128^count` divides `2^64` as long as `count ≤ 9`: the digits below position `count` cannot carry a digit that fits out of
64 bits -/
theorem no_carry {count val c : Nat} (hc : count < 10) (hv : val < 128 ^ count) (h : c * 128 ^ count < 2^64) :
    val + c * 128 ^ count < 2^64 := by
  have e : 2^64 = 2^(64 - 7*count) * 128^count := by
    rw [show (128:Nat) = 2^7 from rfl, ← Nat.pow_mul, ← Nat.pow_add]
    congr 1; omega
  rw [e] at h ⊢
  exact add_mul_lt hv h

/-- what the decoder must return from loop state `(count, val)` according to the spec -/
def specFrom (w : Bytes) (count val : Nat) : Res (Nat × Nat) :=
  match value w with
  | none => .err
  | some (v, n) =>
    if count + n ≤ 10 ∧ val + 128 ^ count * v < 2^64 then .ok (val + 128 ^ count * v, count + n)
    else .err

theorem value_last {b : UInt8} {rest : Bytes} (hb : b.toNat ≥ 128) : value (b :: rest) = some (b.toNat - 128, 1) := by
  rw [value, if_pos hb]

theorem value_more {b : UInt8} {rest : Bytes} (hb : ¬ b.toNat ≥ 128) :
    value (b :: rest) = (value rest).map fun p => (b.toNat + 128 * p.1, p.2 + 1) := by
  rw [value, if_neg hb]; cases value rest <;> rfl

theorem value_len_pos : ∀ {w : Bytes} {v n : Nat}, value w = some (v, n) → 1 ≤ n
  | [], _, _, h => by cases h
  | b :: rest, v, n, h => by
    by_cases hb : b.toNat ≥ 128
    · rw [value_last hb] at h
      exact Nat.le_of_eq (Prod.mk.inj (Option.some.inj h)).2
    · rw [value_more hb] at h
      cases hr : value rest with
      | none => rw [hr] at h; cases h
      | some p => rw [hr] at h; exact (Prod.mk.inj (Option.some.inj h)).2 ▸ Nat.le_add_left 1 _

theorem value_take {w : Bytes} {k v n : Nat} : value (w.take k) = some (v, n) ↔ value w = some (v, n) ∧ n ≤ k := by
  induction w generalizing k v n with
  | nil => simp [value]
  | cons b rest ih =>
    cases k with
    | zero =>
      rw [List.take_zero, value]
      exact ⟨fun h => (by cases h), fun ⟨h, h0⟩ => by have := value_len_pos h; omega⟩
    | succ k =>
      rw [List.take_succ_cons]
      by_cases hb : b.toNat ≥ 128
      · simp only [value_last hb, Option.some.injEq, Prod.mk.injEq]; omega
      · simp only [value_more hb, Option.map_eq_some_iff, Prod.exists, ih, Prod.mk.injEq]
        constructor
        · rintro ⟨a, c, ⟨h1, h2⟩, h3, h4⟩; exact ⟨⟨a, c, h1, h3, h4⟩, by omega⟩
        · rintro ⟨⟨a, c, h1, h3, h4⟩, h5⟩; exact ⟨a, c, ⟨h1, by omega⟩, h3, h4⟩

theorem specFrom_nil (count val : Nat) : specFrom [] count val = .err := rfl

theorem specFrom_full {w : Bytes} {count val : Nat} (h : 10 ≤ count ∨ 2^64 ≤ val) : specFrom w count val = .err := by
  unfold specFrom
  split
  · rfl
  · rename_i hr
    have := value_len_pos hr
    rw [if_neg (by omega)]

theorem specFrom_last (b : UInt8) (rest : Bytes) (count val : Nat) (hb : b.toNat ≥ 128) :
    specFrom (b :: rest) count val =
      if count < 10 ∧ val + (b.toNat - 128) * 128 ^ count < 2^64 then .ok (val + (b.toNat - 128) * 128 ^ count, count + 1) else .err := by
  simp only [specFrom, value, hb, ↓reduceIte, Nat.mul_comm, Nat.lt_iff_add_one_le]

theorem specFrom_more (b : UInt8) (rest : Bytes) (count val : Nat) (hb : ¬ b.toNat ≥ 128) :
    specFrom (b :: rest) count val = specFrom rest (count + 1) (val + b.toNat * 128 ^ count) := by
  simp only [specFrom, value, hb, ↓reduceIte]
  cases value rest with
  | none => rfl
  | some p =>
    have e : val + b.toNat * 128 ^ count + 128 ^ (count + 1) * p.1 = val + 128 ^ count * (b.toNat + 128 * p.1) := by
      rw [Nat.pow_succ, Nat.mul_add, Nat.mul_assoc, Nat.mul_comm b.toNat, Nat.add_assoc]
    simp only [e, Nat.add_assoc, Nat.add_comm 1]

/-- The loop of `compint_to_size` computes the specification.  Invariant: `val` holds the `count` digits read so far
(`val < 128^count`); since `count < 10`, `128^count` divides `2^64`, so the C overflow test on the digit alone (`shift_check`) is
exact (`no_carry`) and the additions never wrap; the C test `*val < old_val` therefore never fires. -/
theorem decLoop_spec (m : Bytes) (pos maxLen : Nat) (hm : maxLen ≤ m.length) (count val old : Nat)
    (hc : count < 10) (hv : val < 128 ^ count) (ho : old ≤ val) :
    decLoop m pos maxLen count val old = specFrom ((window m pos maxLen).drop count) count val := by
  induction k : 10 - count generalizing count val old with
  | zero => omega
  | succ k ih =>
    rw [decLoop]
    by_cases hend : pos + count ≥ maxLen
    · rw [if_pos hend, window_drop_nil m pos maxLen count hend]; rfl
    obtain ⟨b, hb, hw⟩ := window_drop_cons m pos maxLen count (Nat.lt_of_not_le hend) hm
    rw [if_neg hend, hb, hw]
    simp only [MAXC_eq, shift_check]
    by_cases hdone : b.toNat ≥ 128
    · simp only [hdone, ↓reduceIte, decide_true, specFrom_last]
      by_cases hbig : 2^64 ≤ (b.toNat - 128) * 128 ^ count
      · rw [if_pos (Or.inr hbig), if_neg (by omega)]
      · have hfit := no_carry hc hv (Nat.lt_of_not_le hbig)
        rw [if_neg (by omega), Nat.mod_eq_of_lt (Nat.lt_of_not_le hbig), Nat.mod_eq_of_lt hfit, if_pos ⟨hc, hfit⟩]
    · simp only [hdone, ↓reduceIte, decide_false, Bool.false_eq_true]
      rw [specFrom_more _ _ _ _ hdone]
      by_cases hbig : 2^64 ≤ b.toNat * 128 ^ count
      · rw [if_pos (Or.inr hbig), specFrom_full (Or.inr (Nat.le_trans hbig (Nat.le_add_left _ _)))]
      · have hfit := no_carry hc hv (Nat.lt_of_not_le hbig)
        rw [if_neg (by omega), Nat.mod_eq_of_lt (Nat.lt_of_not_le hbig), Nat.mod_eq_of_lt hfit]
        split
        · -- no further byte may be read: ten seen, or the window ends here
          by_cases h10 : 10 ≤ count + 1
          · rw [specFrom_full (Or.inl h10)]
          · rw [window_drop_nil m pos maxLen (count + 1) (by omega), specFrom_nil]
        · have hV : val + b.toNat * 128 ^ count < 128 ^ (count + 1) := by
            rw [Nat.pow_succ, Nat.mul_comm _ 128]
            exact add_mul_lt hv (Nat.mul_lt_mul_of_pos_right (by omega) (Nat.pow_pos (by decide)))
          exact ih (count + 1) _ _ (by omega) hV (Nat.le_refl _) (by omega)

end Zck.Compint

namespace Zck.C20
open Zck.Compint

/-- C20 (decode, size_t): for every buffer, cursor and limit within the allocation the
decoder returns exactly what the property demands — in particular it never reads out of
bounds (`specDec` has no `oob` result). -/
theorem decSize_eq_spec {m : Bytes} {pos maxLen : Nat} (hm : maxLen ≤ m.length) :
    decSize m pos maxLen = specDec (window m pos maxLen) (2^64) := by
  unfold decSize
  rw [decLoop_spec m pos maxLen hm 0 0 0 (by omega) (by simp) (Nat.le_refl _)]
  unfold specFrom specDec
  rw [List.drop_zero]
  cases value (window m pos maxLen) with
  | none => rfl
  | some p => simp only [Nat.pow_zero, Nat.one_mul, Nat.zero_add]

theorem specDec_eq_ok (w : Bytes) (limit v n : Nat) :
    specDec w limit = .ok (v, n) ↔ value w = some (v, n) ∧ n ≤ 10 ∧ v < limit := by
  unfold specDec
  cases value w with
  | none => simp
  | some p =>
    obtain ⟨v', n'⟩ := p
    by_cases hc : n' ≤ 10 ∧ v' < limit
    · simp only [hc, and_self, ↓reduceIte, Res.ok.injEq, Option.some.injEq, Prod.mk.injEq]
      exact ⟨fun ⟨h1, h2⟩ => ⟨⟨h1, h2⟩, h1 ▸ h2 ▸ hc⟩, fun h => h.1⟩
    · simp only [hc, ↓reduceIte, reduceCtorEq, Option.some.injEq, Prod.mk.injEq, false_iff]
      rintro ⟨⟨rfl, rfl⟩, h⟩; exact hc h

theorem specDec_not_oob {w : Bytes} {limit : Nat} (i : Nat) : specDec w limit ≠ .oob i := by
  unfold specDec
  split
  · simp
  · split <;> simp

/-- C20 (decode, int): the int decoder additionally rejects values above `INT_MAX`. -/
theorem decInt_eq_spec {m : Bytes} {pos maxLen : Nat} (hm : maxLen ≤ m.length) :
    decInt m pos maxLen = specDec (window m pos maxLen) (2^31) := by
  unfold decInt
  rw [decSize_eq_spec hm]
  unfold specDec
  cases value (window m pos maxLen) with
  | none => rfl
  | some p =>
    simp only
    by_cases h1 : p.2 ≤ 10 ∧ p.1 < 2^64
    · rw [if_pos h1]; simp only
      by_cases h2 : p.1 > 2147483647
      · rw [if_pos h2, if_neg (by omega)]
      · rw [if_neg h2, if_pos (by omega)]
    · rw [if_neg h1, if_neg (by omega)]

theorem value_enc (v : Nat) (tail : Bytes) :
    value (enc v ++ tail) = some (v, (enc v).length) := by
  induction v using Nat.strongRecOn with
  | _ v ih =>
    rw [enc]
    by_cases h : v < 128
    · -- one byte, flagged: `v + 128 < 256`
      have hb : (UInt8.ofNat (v + 128)).toNat = v + 128 := by
        rw [UInt8.toNat_ofNat']; exact Nat.mod_eq_of_lt (Nat.add_lt_add_right h 128)
      rw [if_pos h, List.cons_append, value_last (by rw [hb]; exact Nat.le_add_left _ _), hb, Nat.add_sub_cancel]
      rfl
    · -- the low digit, then the encoding of `v / 128`: `v % 128 + 128 * (v / 128) = v`
      have hlt : v % 128 < 128 := Nat.mod_lt _ (by decide)
      have hb : (UInt8.ofNat (v % 128)).toNat = v % 128 := by
        rw [UInt8.toNat_ofNat']; exact Nat.mod_eq_of_lt (Nat.lt_trans hlt (by decide))
      rw [if_neg h, List.cons_append, value_more (by rw [hb]; exact Nat.not_le_of_lt hlt),
        ih (v / 128) (by omega), hb, Option.map_some,
        Nat.mod_add_div]
      rfl

theorem enc_len_le (k : Nat) : ∀ v, v < 128 ^ (k + 1) → (enc v).length ≤ k + 1 := by
  induction k with
  | zero => intro v hv; rw [enc]; simp at hv; simp [hv]
  | succ k ih =>
    intro v hv
    rw [enc]
    by_cases h : v < 128
    · simp [h]
    · simp only [h, ↓reduceIte, List.length_cons]
      have : v / 128 < 128 ^ (k + 1) := by
        rw [Nat.div_lt_iff_lt_mul (by decide)]
        rw [Nat.pow_succ] at hv; exact hv
      have := ih (v / 128) this
      omega

theorem enc_len_le_ten (v : Nat) (hv : v < 2^64) : (enc v).length ≤ 10 := by
  apply enc_len_le 9 v
  omega

theorem enc_len_pos (v : Nat) : 1 ≤ (enc v).length := by
  rw [enc]; split <;> simp

end Zck.C20
