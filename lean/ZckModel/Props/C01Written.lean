/-
C01 — a file as the writer lays it out is well-formed for the reader, and reads back as what was put in.

The layout is described from the writer's side (`WC`, `WOk`, `fileOf`): the header `header_create` serialises from a spec, then
the stored bytes of the chunks in index order, every index entry describing its chunk.  That the stored bytes decode to the
chunk's content under the dictionary the format prescribes is the one assumption about the codec.  `written_WF` turns this into
the reader's notion of a well-formed file (`WF` of `Props/C01Stream.lean`; the header opens by `openFile_header`), so that
`read_back` applies: any sequence of read buffer sizes reads back the contents of the data chunks, in order, and `zck_close`
succeeds.
-/
import ZckModel.Props.C01Encode
import ZckModel.Props.C01Stream
import ZckModel.Props.C02Full
import ZckModel.Props.C01

namespace Zck.EncP
open Zck.Header Zck.Format Zck.Encode Zck.Reader Zck.Stream

/-- a finished chunk: its index entry, its stored bytes and its content -/
structure WC where
  c  : Chunk
  st : Bytes
  pl : Bytes

/-- the index entry describes the chunk -/
def WOk (H : Format.HashFn) (D : Decomp) (cht compType : Nat) (dict : Option Bytes) (w : WC) : Prop :=
  w.c.compLen = w.st.length ∧ w.c.len = w.pl.length ∧
  (∃ d, H cht w.st = some d ∧ (if w.c.compLen = 0 then zeros d.length else d) = w.c.digest) ∧
  (if compType = 0 then w.st = w.pl else D w.st dict = some w.pl)

theorem sumLen_map (ws : List WC) (h : ∀ w ∈ ws, w.c.compLen = w.st.length) :
    C13.sumLen (ws.map (·.c)) = (ws.map (·.st)).flatten.length := by
  induction ws with
  | nil => rfl
  | cons w ws ih =>
    simp only [List.map_cons, C13.sumLen, List.flatten_cons, List.length_append]
    rw [ih (fun x hx => h x (List.mem_cons_of_mem _ hx)), h w (by simp)]

theorem slice_flatten (A : Bytes) : ∀ (sts : List Bytes) (j : Nat) (st : Bytes), sts[j]? = some st →
    fileRead (A ++ sts.flatten) (A.length + (sts.take j).flatten.length) st.length = st := by
  intro sts j st h
  rw [flatten_eq_of_getElem? sts j st h, ← List.length_append, ← List.append_assoc, ← List.append_assoc]
  exact fileRead_append_self _ _ _

theorem doneFrom_pointwise (D : Decomp) (f : Bytes) (h : Hdr) : ∀ (cs : List Chunk) (ps : List Bytes) (k : Nat),
    cs.length = ps.length → (∀ i c p, cs[i]? = some c → ps[i]? = some p → contrib D f h (k + i) c = p) →
    doneFrom D f h k cs = ps.flatten
  | [], [], _, _, _ => rfl
  | [], _ :: _, _, hl, _ => by simp at hl
  | _ :: _, [], _, hl, _ => by simp at hl
  | c :: cs, p :: ps, k, hl, hp => by
    have ih := doneFrom_pointwise D f h cs ps (k + 1) (Nat.succ.inj hl) (fun i c' p' hc hpp => by
      have := hp (i + 1) c' p' hc hpp
      rwa [Nat.add_comm i 1, ← Nat.add_assoc] at this)
    rw [doneFrom, List.flatten_cons, ih, ← hp 0 c p rfl rfl]
    rfl

/-- the geometry of a laid-out file: behind a header of `A.length` bytes whose index is the writer's entries, renumbered, chunk `j`
of the header is entry `j` of the writer and its stored bytes on disk are the writer's -/
theorem stored_at {ws : List WC} {u : Bool} {A : Bytes} {h : Hdr} (hdoff : dOff h = A.length)
    (hchunks : h.chunks = renum u 0 0 (ws.map (·.c))) (hcl : ∀ w ∈ ws, w.c.compLen = w.st.length)
    (j : Nat) (ch : Chunk) (hch : h.chunks[j]? = some ch) :
    ∃ w, ws[j]? = some w ∧ ch.digest = w.c.digest ∧ ch.compLen = w.c.compLen ∧ ch.len = w.c.len ∧
      stored (A ++ (ws.map (·.st)).flatten) h ch = w.st := by
  rw [hchunks] at hch
  obtain ⟨c, hc1, rfl⟩ := renum_get _ _ _ _ _ _ hch
  rw [List.getElem?_map] at hc1
  cases hw : ws[j]? with
  | none => rw [hw] at hc1; cases hc1
  | some w =>
    rw [hw] at hc1
    obtain rfl := Option.some.inj hc1
    refine ⟨w, rfl, rfl, rfl, rfl, ?_⟩
    -- the start offset is the running sum of the stored sizes, which is the length of the stored bytes in front
    unfold stored
    simp only
    rw [hdoff, Nat.zero_add, ← List.map_take, sumLen_map (ws.take j) (fun x hx => hcl x (List.mem_of_mem_take hx)),
      hcl w (List.mem_of_getElem? hw), List.map_take]
    exact slice_flatten A _ j w.st (by rw [List.getElem?_map, hw]; rfl)

/-- an entry that describes its chunk is good for the reader, and the chunk decodes to the content, once the stored bytes are
where the header says -/
theorem good_of_wok (H : Format.HashFn) (D : Decomp) {f : Bytes} {h : Hdr} {ch : Chunk} {w : WC} {dict : Option Bytes}
    (hst : stored f h ch = w.st) (hdg : ch.digest = w.c.digest) (hcl : ch.compLen = w.st.length) (hln : ch.len = w.pl.length)
    (hok : WOk H D h.chunkHashType h.compType dict w) :
    ChunkGood H D f h dict ch ∧ plainOf D f h dict ch = w.pl := by
  obtain ⟨l1, _, ⟨d, hHd, hdig⟩, hdec⟩ := hok
  have hsum : SumOk H f h ch := ⟨d, by rw [hst]; exact hHd, by rw [hcl, ← l1, hdg]; exact hdig⟩
  unfold ChunkGood plainOf
  rw [hst]
  by_cases hz : h.compType = 0
  · rw [if_pos hz] at hdec
    rw [if_pos hz, if_pos hz]
    exact ⟨⟨hcl.symm, hsum, by rw [hcl, hln, hdec]⟩, hdec⟩
  · rw [if_neg hz] at hdec
    rw [if_neg hz, if_neg hz, hdec]
    exact ⟨⟨hcl.symm, hsum, w.pl, rfl, hln.symm⟩, rfl⟩

/-- the dictionary for the data chunks, from the writer's side -/
def dictOfHead (ws : List WC) : Option Bytes :=
  match ws.head? with
  | some w => if w.pl.length = 0 then none else some w.pl
  | none => none

section
variable (H : Format.HashFn) (D : Decomp) (s : Spec) (ws : List WC) (ds cs : Nat) (dg : Bytes)

/-- the file as `zck_close` lays it out: header, then the stored bytes of the chunks in index order -/
def fileOf : Bytes := encLead0 s ++ dg ++ encBody s ++ (ws.map (·.st)).flatten

section
/-! The stored bytes of `ws` behind a header `A` that reads as `h`, the first chunk the empty dictionary entry or described by its
entry. -/
variable {u : Bool} {A : Bytes} {h : Hdr} (hdoff : dOff h = A.length) (hchunks : h.chunks = renum u 0 0 (ws.map (·.c)))
  (hlen : ∀ w ∈ ws, w.c.compLen = w.st.length ∧ w.c.len = w.pl.length)
  (h0 : ∀ w, ws.head? = some w → (w.c.compLen = 0 ∧ w.c.len = 0) ∨ WOk H D h.chunkHashType h.compType none w)
include hdoff hchunks hlen h0

/-- the reader's dictionary is the content of the writer's first chunk -/
theorem written_dict : dictMain D (A ++ (ws.map (·.st)).flatten) h = dictOfHead ws := by
  unfold dictMain dictOfHead
  cases ws with
  | nil => rw [hchunks]; rfl
  | cons w rest =>
    generalize hc0 : (⟨0, w.c.digest, if u then w.c.udigest else none, w.c.compLen, w.c.len, 0⟩ : Chunk) = ch0
    have hhd : h.chunks.head? = some ch0 := by rw [hchunks, ← hc0]; rfl
    obtain ⟨w', hw', hdgs, hcl', hln', hst⟩ :=
      stored_at hdoff hchunks (fun w hw => (hlen w hw).1) 0 ch0 (List.head?_eq_getElem? ▸ hhd)
    cases hw'
    obtain ⟨l1, l2⟩ := hlen w List.mem_cons_self
    rw [hhd]
    simp only [List.head?_cons]
    rw [hln', l2]
    split
    · rfl
    · rename_i hne
      rcases h0 w rfl with hsk | hok
      · exact absurd (l2.symm.trans hsk.2) hne
      · rw [(good_of_wok H D hst hdgs (hcl'.trans l1) (hln'.trans l2) hok).2]

/-- chunk `j` of the file is good for the reader (or is the empty dictionary entry), and what it contributes is the writer's content -/
theorem written_chunk (hrest : ∀ w ∈ ws.tail, WOk H D h.chunkHashType h.compType (dictOfHead ws) w)
    (j : Nat) (ch : Chunk) (w : WC) (hch : h.chunks[j]? = some ch) (hw : ws[j]? = some w) :
    Need H D (A ++ (ws.map (·.st)).flatten) h j ch ∧ contrib D (A ++ (ws.map (·.st)).flatten) h j ch = w.pl := by
  obtain ⟨w', hw', hdgs, hcl', hln', hst⟩ := stored_at hdoff hchunks (fun w hw => (hlen w hw).1) j ch hch
  rw [hw] at hw'; cases hw'
  obtain ⟨l1, l2⟩ := hlen w (List.mem_of_getElem? hw)
  have hwok : (j = 0 ∧ w.c.compLen = 0 ∧ w.c.len = 0) ∨
      WOk H D h.chunkHashType h.compType (dictFor D (A ++ (ws.map (·.st)).flatten) h j) w := by
    unfold dictFor
    cases j with
    | zero => exact (h0 w (List.head?_eq_getElem? ▸ hw)).imp (fun hsk => ⟨rfl, hsk⟩) id
    | succ j' =>
      rw [if_neg (Nat.succ_ne_zero _), written_dict H D ws hdoff hchunks hlen h0]
      exact Or.inr (hrest w (List.mem_of_getElem? (List.getElem?_tail.trans hw)))
  rcases hwok with ⟨hj0, hc0, hl0⟩ | hok
  · -- the empty dictionary entry contributes nothing, and has no content
    have hsk : Skipped j ch := ⟨hj0, hcl'.trans hc0, hln'.trans hl0⟩
    exact ⟨Or.inl hsk, by rw [contrib, if_pos hsk, List.eq_nil_of_length_eq_zero (l2.symm.trans hl0)]⟩
  · obtain ⟨hcg, hpl⟩ := good_of_wok H D hst hdgs (hcl'.trans l1) (hln'.trans l2) hok
    exact ⟨Or.inr hcg, hcg.contrib_eq.trans hpl⟩

end

/-- C01: a written file is well-formed for the reader -/
theorem written_WF (hs : s.chunks = ws.map (·.c)) (hf : Fits s ds cs)
    (hH : H s.hashType (encLead0 s ++ encBody s) = some dg) (hdg : dg.length = ds)
    (hlen : ∀ w ∈ ws, w.c.compLen = w.st.length ∧ w.c.len = w.pl.length)
    (h0 : ∀ w, ws.head? = some w → (w.c.compLen = 0 ∧ w.c.len = 0) ∨ WOk H D s.chunkHashType s.compType none w)
    (hrest : ∀ w ∈ ws.tail, WOk H D s.chunkHashType s.compType (dictOfHead ws) w)
    (hsmall : ∀ w ∈ ws, w.pl.length < allocLimit)
    (hdata : s.flags = 4 ∨ H s.hashType (ws.map (·.st)).flatten = some s.dataDigest) :
    openFile H (fileOf s ws dg) = .ok (hdrOf s ds dg) ∧ WF H D (fileOf s ws dg) (hdrOf s ds dg) ∧
    doneFrom D (fileOf s ws dg) (hdrOf s ds dg) 1 ((hdrOf s ds dg).chunks.drop 1) = ((ws.drop 1).map (·.pl)).flatten := by
  have hopen := openFile_header H s ds cs dg (ws.map (·.st)).flatten hf hH hdg
  generalize hA : encLead0 s ++ dg ++ encBody s = A at hopen
  have hfile : fileOf s ws dg = A ++ (ws.map (·.st)).flatten := by unfold fileOf; rw [hA]
  generalize hh : hdrOf s ds dg = h at hopen
  have hdoff : dOff h = A.length := by
    rw [← hh, ← hA, List.length_append, List.length_append, hdg]; rfl
  have hchunks : h.chunks = renum (withU s) 0 0 (ws.map (·.c)) := by rw [← hh, ← hs]; rfl
  have hcl : ∀ w ∈ ws, w.c.compLen = w.st.length := fun w hw => (hlen w hw).1
  have htotal : total h = (ws.map (·.st)).flatten.length := by
    unfold total; rw [hchunks, renum_sum, sumLen_map ws hcl]
  have hget := stored_at hdoff hchunks hcl
  have hgood := written_chunk H D ws hdoff hchunks hlen (by rw [← hh]; exact h0) (by rw [← hh]; exact hrest)
  rw [hfile]
  generalize hbody : (ws.map (·.st)).flatten = body at *
  have hall : fileRead (A ++ body) A.length body.length = body := by
    have := fileRead_append_self A body []
    rwa [List.append_nil] at this
  have hlenc : h.chunks.length = ws.length := by rw [hchunks, renum_length, List.length_map]
  refine ⟨hopen, { run := ?_, needs := ?_, present := ?_, small := ?_, data := ?_, nonempty := ?_ }, ?_⟩
  · rw [hchunks]; exact renum_run _ _ _ _
  · intro j ch hj hch
    exact (hgood j ch (ws[j]'(hlenc ▸ hj)) hch (List.getElem?_eq_getElem (hlenc ▸ hj))).1
  · rw [htotal, hdoff, hall]
  · intro c hc
    obtain ⟨j, hj, hjc⟩ := List.getElem_of_mem hc
    obtain ⟨w, hw, _, _, hln, _⟩ := hget j c (by rw [List.getElem?_eq_getElem hj, hjc])
    rw [hln, (hlen w (List.mem_of_getElem? hw)).2]; exact hsmall w (List.mem_of_getElem? hw)
  · rcases hdata with hfl | hdig
    · left; rw [← hh]; simp [f4, hdrOf, hfl]
    · right
      rw [htotal, hdoff, hall, ← hh]
      exact hdig
  · intro hnil
    have : h.chunks.length = 0 := by rw [hnil]; rfl
    rw [hchunks, renum_length, ← hs] at this
    exact hf.hne (List.eq_nil_of_length_eq_zero this)
  · refine doneFrom_pointwise D (A ++ body) h _ _ 1 (by simp [hlenc]) ?_
    intro i c p hc hp
    rw [List.getElem?_drop] at hc
    rw [List.getElem?_map, List.getElem?_drop] at hp
    cases hw : ws[1 + i]? with
    | none => rw [hw] at hp; cases hp
    | some w =>
      rw [hw] at hp
      obtain rfl := Option.some.inj hp
      exact (hgood (1 + i) c w hc hw).2

/-- C01 (write → read, on the models).  A file laid out as `zck_close` lays it out — the serialised header, then the stored
chunks — whose index entries describe their chunks, opens, and under ANY sequence of read buffer sizes no read fails; once a read
comes up short the bytes handed out are exactly the contents of the data chunks in order, and `zck_close` succeeds. -/
theorem write_read_roundtrip (hs : s.chunks = ws.map (·.c)) (hf : Fits s ds cs)
    (hH : H s.hashType (encLead0 s ++ encBody s) = some dg) (hdg : dg.length = ds)
    (hlen : ∀ w ∈ ws, w.c.compLen = w.st.length ∧ w.c.len = w.pl.length)
    (h0 : ∀ w, ws.head? = some w → (w.c.compLen = 0 ∧ w.c.len = 0) ∨ WOk H D s.chunkHashType s.compType none w)
    (hrest : ∀ w ∈ ws.tail, WOk H D s.chunkHashType s.compType (dictOfHead ws) w)
    (hsmall : ∀ w ∈ ws, w.pl.length < allocLimit)
    (hdata : s.flags = 4 ∨ H s.hashType (ws.map (·.st)).flatten = some s.dataDigest)
    (init : List Nat) (nl : Nat) :
    openFile H (fileOf s ws dg) = .ok (hdrOf s ds dg) ∧
    (∀ r ∈ (reads H D (fileOf s ws dg) (openCtx (hdrOf s ds dg)) init).1, 0 ≤ r.ret ∧ r.ret = r.bytes.length) ∧
    0 ≤ (compRead H D (fileOf s ws dg) (reads H D (fileOf s ws dg) (openCtx (hdrOf s ds dg)) init).2 nl).1.ret ∧
    ((compRead H D (fileOf s ws dg) (reads H D (fileOf s ws dg) (openCtx (hdrOf s ds dg)) init).2 nl).1.ret < nl →
      outOf (reads H D (fileOf s ws dg) (openCtx (hdrOf s ds dg)) init).1 ++
        (compRead H D (fileOf s ws dg) (reads H D (fileOf s ws dg) (openCtx (hdrOf s ds dg)) init).2 nl).1.bytes =
        ((ws.drop 1).map (·.pl)).flatten ∧
      close H (compRead H D (fileOf s ws dg) (reads H D (fileOf s ws dg) (openCtx (hdrOf s ds dg)) init).2 nl).2 = true) := by
  obtain ⟨hopen, wf, hcontent⟩ := written_WF H D s ws ds cs dg hs hf hH hdg hlen h0 hrest hsmall hdata
  obtain ⟨r1, r2, _, r4⟩ := read_back wf init nl
  exact ⟨hopen, r1, r2, fun hshort => by
    obtain ⟨a, b⟩ := r4 hshort
    exact ⟨by rw [a, hcontent], b⟩⟩

/-- C01, end to end on the models.  `ops` = any sequence of write / end-of-chunk calls under a legal configuration, closed
successfully with data chunks `chunks` (the chunker model); the file = serialised header + stored chunks `ws` whose entries describe
`dictionary chunk :: chunks`; then any reads that end short hand back exactly the bytes written, and close succeeds. -/
theorem write_ops_read_back (cfg : Writer.Cfg) (hl : Writer.Legal cfg.norm) (ops : List Writer.Op) (chunks : List Bytes)
    (hclose : Writer.closeChunks cfg ops = some chunks) (hws : (ws.drop 1).map (·.pl) = chunks)
    (hs : s.chunks = ws.map (·.c)) (hf : Fits s ds cs)
    (hH : H s.hashType (encLead0 s ++ encBody s) = some dg) (hdg : dg.length = ds)
    (hlen : ∀ w ∈ ws, w.c.compLen = w.st.length ∧ w.c.len = w.pl.length)
    (h0 : ∀ w, ws.head? = some w → (w.c.compLen = 0 ∧ w.c.len = 0) ∨ WOk H D s.chunkHashType s.compType none w)
    (hrest : ∀ w ∈ ws.tail, WOk H D s.chunkHashType s.compType (dictOfHead ws) w)
    (hsmall : ∀ w ∈ ws, w.pl.length < allocLimit)
    (hdata : s.flags = 4 ∨ H s.hashType (ws.map (·.st)).flatten = some s.dataDigest)
    (init : List Nat) (nl : Nat)
    (hshort : (compRead H D (fileOf s ws dg) (reads H D (fileOf s ws dg) (openCtx (hdrOf s ds dg)) init).2 nl).1.ret < nl) :
    outOf (reads H D (fileOf s ws dg) (openCtx (hdrOf s ds dg)) init).1 ++
        (compRead H D (fileOf s ws dg) (reads H D (fileOf s ws dg) (openCtx (hdrOf s ds dg)) init).2 nl).1.bytes =
      Writer.written ops ∧
    close H (compRead H D (fileOf s ws dg) (reads H D (fileOf s ws dg) (openCtx (hdrOf s ds dg)) init).2 nl).2 = true := by
  obtain ⟨_, _, _, r⟩ := write_read_roundtrip H D s ws ds cs dg hs hf hH hdg hlen h0 hrest hsmall hdata init nl
  obtain ⟨a, b⟩ := r hshort
  exact ⟨by rw [a, hws]; exact C01.W_structure cfg hl ops chunks hclose, b⟩

end

/-! non-vacuity (test): the example file of `Props/C02Full.lean` is such a file -/

def exSpec : Spec := ⟨3, 3, 0, 0, exDd, [⟨0, zeros 16, none, 0, 0, 0⟩, ⟨0, exD1, none, 3, 3, 0⟩, ⟨0, exD2, none, 2, 2, 0⟩]⟩
def exWs : List WC := [⟨⟨0, zeros 16, none, 0, 0, 0⟩, [], []⟩, ⟨⟨0, exD1, none, 3, 3, 0⟩, [1, 2, 3], [1, 2, 3]⟩,
  ⟨⟨0, exD2, none, 2, 2, 0⟩, [9, 8], [9, 8]⟩]

example : fileOf exSpec exWs exHd = exFile := by decide +kernel

/-- the byte-for-byte model of `zck_close` produces exactly that file for an empty dictionary and the two chunks -/
example : closeFileNone exH 3 3 [] [[1, 2, 3], [9, 8]] = some exFile := by decide +kernel

theorem exLens : (encLead0 exSpec).length = 7 ∧ (encBody exSpec).length = 76 ∧ (encIndex exSpec).length = 56 := by decide +kernel

example : outOf (reads exH exD (fileOf exSpec exWs exHd) (openCtx (hdrOf exSpec 16 exHd)) [1, 3]).1 ++
    (compRead exH exD (fileOf exSpec exWs exHd) (reads exH exD (fileOf exSpec exWs exHd) (openCtx (hdrOf exSpec 16 exHd)) [1, 3]).2 9).1.bytes
    = [1, 2, 3, 9, 8] := by
  have h := write_read_roundtrip exH exD exSpec exWs 16 16 exHd rfl
    ⟨rfl, rfl, by decide +kernel, Or.inl rfl, Or.inl rfl, by decide +kernel, by rw [exLens.2.2]; decide +kernel, by
      rw [exLens.1, exLens.2.1]
      simp [EntFits, exSpec, withU, exD1, exD2, zeros]⟩
    (by decide +kernel) (by decide +kernel) (by decide +kernel) (fun w hw => Or.inl (by simp [exWs] at hw; subst hw; exact ⟨rfl, rfl⟩))
    (fun w hw => by
      simp [exWs] at hw
      rcases hw with rfl | rfl
      · exact ⟨rfl, rfl, ⟨_, rfl, by decide +kernel⟩, rfl⟩
      · exact ⟨rfl, rfl, ⟨_, rfl, by decide +kernel⟩, rfl⟩)
    (by decide +kernel) (Or.inr (by decide +kernel)) [1, 3] 9
  exact (h.2.2.2 (by decide +kernel)).1

end Zck.EncP
