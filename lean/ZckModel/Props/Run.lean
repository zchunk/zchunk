/-
Running index: `C13.RunFrom` (entries numbered consecutively, every start the running sum of the stored sizes before it) and what
it says about a single entry and about two.  About the format only, so that the header reader (C13: what it accepts is a running
index) and the download callbacks (C05: the extents of a running index do not overlap) can both rest on it.
-/
import ZckModel.Format

namespace Zck.C13
open Zck.Format

/-- chunk numbers count up from `num` and starts are the running sum of stored sizes from `start` -/
def RunFrom : Nat → Nat → List Format.Chunk → Prop
  | _, _, [] => True
  | num, start, c :: rest => c.number = num ∧ c.start = start ∧ RunFrom (num + 1) (start + c.compLen) rest

def sumLen : List Format.Chunk → Nat
  | [] => 0
  | c :: rest => c.compLen + sumLen rest

theorem compLen_le_sumLen : ∀ (cs : List Chunk) (c : Chunk), c ∈ cs → c.compLen ≤ sumLen cs
  | d :: rest, c, h => by
    rcases List.mem_cons.mp h with rfl | h
    · exact Nat.le_add_right _ _
    · exact Nat.le_trans (compLen_le_sumLen rest c h) (Nat.le_add_left _ _)

theorem sumLen_take_succ {cs : List Chunk} {k : Nat} {ch : Chunk} (hk : cs[k]? = some ch) :
    sumLen (cs.take (k + 1)) = sumLen (cs.take k) + ch.compLen := by
  induction cs generalizing k with
  | nil => simp at hk
  | cons c cs ih =>
    cases k with
    | zero =>
      simp only [List.getElem?_cons_zero, Option.some.injEq] at hk
      subst hk; simp [sumLen]
    | succ k =>
      simp only [List.take_succ_cons, sumLen, ih hk]; omega

theorem sumLen_take_le (cs : List Chunk) (k : Nat) : sumLen (cs.take k) ≤ sumLen cs := by
  induction cs generalizing k with
  | nil => simp [sumLen]
  | cons c cs ih =>
    cases k with
    | zero => simp [sumLen]
    | succ k => simp only [List.take_succ_cons, sumLen]; have := ih k; omega

theorem run_start : ∀ {cs : List Chunk} {num s k : Nat} {ch : Chunk}, RunFrom num s cs → cs[k]? = some ch →
    ch.start = s + sumLen (cs.take k)
  | [], _, _, _, _, _, hk => by simp at hk
  | c :: cs, num, s, 0, ch, hr, hk => by
    simp only [List.getElem?_cons_zero, Option.some.injEq] at hk
    subst hk; simp [sumLen, hr.2.1]
  | c :: cs, num, s, k + 1, ch, hr, hk => by
    have := run_start hr.2.2 hk
    simp only [List.take_succ_cons, sumLen]; omega

theorem run_next {cs : List Chunk} {num s : Nat} (hr : RunFrom num s cs) (k : Nat) (ch nx : Chunk) (hk : cs[k]? = some ch)
    (hn : cs[k + 1]? = some nx) : nx.start = ch.start + ch.compLen := by
  have h1 := run_start hr hk
  have h2 := run_start hr hn
  rw [sumLen_take_succ hk] at h2
  omega

theorem run_end_le {cs : List Chunk} {num s : Nat} (hr : RunFrom num s cs) (k : Nat) (ch : Chunk) (hk : cs[k]? = some ch) :
    ch.start + ch.compLen ≤ s + sumLen cs := by
  have h1 := run_start hr hk
  have h2 := sumLen_take_succ hk
  have h3 := sumLen_take_le cs (k + 1)
  omega

theorem run_last {cs : List Chunk} {num s : Nat} (hr : RunFrom num s cs) (k : Nat) (ch : Chunk) (hk : cs[k]? = some ch)
    (hl : cs.length ≤ k + 1) : ch.start + ch.compLen = s + sumLen cs := by
  have h1 := run_start hr hk
  have h2 := sumLen_take_succ hk
  rw [List.take_of_length_le hl] at h2
  omega

theorem run_numbers : ∀ {cs : List Chunk} {num s : Nat}, RunFrom num s cs → cs.map (·.number) = List.range' num cs.length
  | [], _, _, _ => rfl
  | c :: rest, num, s, h => by
    rw [List.map_cons, List.length_cons, List.range'_succ, run_numbers h.2.2, h.1]

theorem run_number {cs : List Chunk} {num s : Nat} (hr : RunFrom num s cs) (k : Nat) (ch : Chunk) (hk : cs[k]? = some ch) :
    ch.number = num + k := by
  have := congrArg (·[k]?) (run_numbers hr)
  simp only [List.getElem?_map, hk, Option.map_some, List.getElem?_range', (List.getElem?_eq_some_iff.mp hk).1] at this
  simpa using this

theorem run_disj {cs : List Chunk} {num s : Nat} (hr : RunFrom num s cs) (k k' : Nat) (ch ch' : Chunk)
    (hk : cs[k]? = some ch) (hk' : cs[k']? = some ch') (hlt : k < k') : ch.start + ch.compLen ≤ ch'.start := by
  have h1 := run_start hr hk
  have h2 := run_start hr hk'
  have h3 := sumLen_take_succ hk
  have h4 := sumLen_take_le (cs.take k') (k + 1)
  rw [List.take_take, (Nat.min_eq_left hlt : min (k + 1) k' = k + 1)] at h4
  omega

end Zck.C13
