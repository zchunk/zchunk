/-
C06 — The header checksum covers every header byte.
Theorems about the model of `read_lead` + `read_header_from_file`.
-/
import ZckModel.HeaderLemmas

namespace Zck.C06
open Zck.Header

theorem readLead_geometry (pins : Pins) (f : Bytes) (l : Lead) (h : readLead pins f = .ok l) :
    l.leadSize = l.digestLoc + l.ds ∧ 5 ≤ l.digestLoc ∧ l.leadSize ≤ f.length ∧
    l.digest = (f.drop l.digestLoc).take l.ds ∧ Format.hsize l.hashType = some l.ds := by
  obtain ⟨-, n1, n2, ht, ds, hlen, -, -, -, hds, -, hneed, rfl⟩ := (readLead_eq_ok pins f l).mp h
  exact ⟨rfl, Nat.le_add_right_of_le (Nat.le_add_right 5 n1), hneed, rfl, hds⟩

/-- the gate: the header is accepted only if the stored checksum equals the checksum of the
fixed magic, the lead before the stored checksum, and the whole remaining header -/
theorem gate (H : HashFn) (f : Bytes) (l : Lead) (hb : Bytes) (h : readHeaderFromFile H f l = .ok hb) :
    H l.hashType (digestInput f l) = some l.digest ∧ l.leadSize + l.headerLen ≤ f.length := by
  obtain ⟨_, _, _, hK, hsum, _⟩ := (readHeaderFromFile_eq_ok H f l hb).mp h
  exact ⟨hsum, hK⟩

/-- partition: every header byte is the identifier, a hashed byte, or a byte of the stored
checksum — no header byte is outside what the checksum covers or is compared against -/
theorem partition (l : Lead) (hgeo : l.leadSize = l.digestLoc + l.ds) (h5 : 5 ≤ l.digestLoc)
    (i : Nat) (hi : i < l.leadSize + l.headerLen) :
    i < 5 ∨ (5 ≤ i ∧ i < l.digestLoc) ∨ (l.digestLoc ≤ i ∧ i < l.leadSize) ∨
    (l.leadSize ≤ i ∧ i < l.leadSize + l.headerLen) := by omega

/-- the hashed bytes determine, together with the stored checksum, every header byte after the identifier -/
theorem header_bytes (f : Bytes) (l : Lead) (hgeo : l.leadSize = l.digestLoc + l.ds) (h5 : 5 ≤ l.digestLoc) :
    (f.take (l.leadSize + l.headerLen)).drop 5 =
      (f.take l.digestLoc).drop 5 ++ ((f.drop l.digestLoc).take l.ds ++ (f.drop l.leadSize).take l.headerLen) := by
  have e1 : f.take (l.leadSize + l.headerLen) = f.take l.digestLoc ++ (f.drop l.digestLoc).take (l.ds + l.headerLen) := by
    rw [hgeo, Nat.add_assoc, List.take_add]
  have e2 : (f.drop l.digestLoc).take (l.ds + l.headerLen)
      = (f.drop l.digestLoc).take l.ds ++ (f.drop l.leadSize).take l.headerLen := by
    rw [List.take_add, List.drop_drop, hgeo]
  rw [e1, e2]
  by_cases hlen : l.digestLoc ≤ f.length
  · rw [List.drop_append_of_le_length (by rw [List.length_take]; omega)]
  · -- the file is shorter than the checksum position: everything after it is empty
    have h1 : f.drop l.digestLoc = [] := List.drop_eq_nil_of_le (by omega)
    have h2 : f.drop l.leadSize = [] := List.drop_eq_nil_of_le (by omega)
    simp [h1, h2]

/-- an explicit collision of the checksum function (never assumed away) -/
def Collision (H : HashFn) (t : Nat) : Prop := ∃ a b, a ≠ b ∧ H t a = H t b ∧ (H t a).isSome

theorem digestInput_inj (f g : Bytes) (l : Lead)
    (h : digestInput f l = digestInput g l)
    (hf : l.leadSize + l.headerLen ≤ f.length) (hg : l.leadSize + l.headerLen ≤ g.length)
    (hgeo : l.leadSize = l.digestLoc + l.ds) (h5 : 5 ≤ l.digestLoc) :
    (f.take l.digestLoc).drop 5 = (g.take l.digestLoc).drop 5 ∧
    (f.drop l.leadSize).take l.headerLen = (g.drop l.leadSize).take l.headerLen := by
  unfold digestInput at h
  rw [List.append_assoc, List.append_assoc, List.append_cancel_left_eq] at h
  have hl : ((f.take l.digestLoc).drop 5).length = ((g.take l.digestLoc).drop 5).length := by
    simp only [List.length_drop, List.length_take]; omega
  exact List.append_inj h hl

/-- C06 (consequence): two files with the same lead geometry that both pass the gate and
agree either on the stored checksum or on all hashed bytes have byte-for-byte the same header
after the identifier — unless the checksum function collides.  So changing a byte of the stored
checksum, preface, index or signatures of a valid file without producing a collision makes open
fail.  The statement is about files whose checksum type, checksum position and header size agree
(`hsame`); the 5-byte identifier is outside the comparison. -/
theorem mutation_rejected (H : HashFn) (f g : Bytes) (l lg : Lead) (hbf hbg : Bytes)
    (hlf : readLead {} f = .ok l) (hlg : readLead {} g = .ok lg)
    (hof : readHeaderFromFile H f l = .ok hbf) (hog : readHeaderFromFile H g lg = .ok hbg)
    (hsame : lg.hashType = l.hashType ∧ lg.digestLoc = l.digestLoc ∧ lg.headerLen = l.headerLen)
    (hagree : l.digest = lg.digest ∨ digestInput f l = digestInput g l) :
    (f.take (l.leadSize + l.headerLen)).drop 5 = (g.take (l.leadSize + l.headerLen)).drop 5 ∨
    Collision H l.hashType := by
  -- the two leads have the same geometry, so the gate of `g` can be said of `l`
  obtain ⟨g1, g2, g3, g4, g5⟩ := readLead_geometry {} f l hlf
  obtain ⟨k1, k2, k3, k4, k5⟩ := readLead_geometry {} g lg hlg
  obtain ⟨s1, s2, s3⟩ := hsame
  have hds : lg.ds = l.ds := by
    rw [s1, g5] at k5; exact (Option.some.inj k5).symm
  have hlead : lg.leadSize = l.leadSize := by rw [k1, g1, s2, hds]
  obtain ⟨gf, lf⟩ := gate H f l hbf hof
  obtain ⟨gg, lgg⟩ := gate H g lg hbg hog
  have hdi : digestInput g lg = digestInput g l := by
    unfold digestInput; rw [s2, hlead, s3]
  rw [hdi, s1] at gg
  rw [hlead, s3] at lgg
  by_cases heq : digestInput f l = digestInput g l
  · -- the hashed bytes agree: so do the stored checksums (both files pass the gate), and the header is these two pieces
    left
    obtain ⟨a, b⟩ := digestInput_inj f g l heq lf lgg g1 g2
    have hdg : l.digest = lg.digest := by
      rw [heq, gg] at gf; exact (Option.some.inj gf).symm
    rw [header_bytes f l g1 g2, header_bytes g l g1 g2, a, b]
    rw [g4, k4, s2, hds] at hdg
    rw [hdg]
  · -- they differ, so by `hagree` the stored checksums agree: two inputs with the same checksum
    rcases hagree with hd | hd
    · right
      exact ⟨digestInput f l, digestInput g l, heq, by rw [gf, gg, hd], by rw [gf]; rfl⟩
    · exact absurd hd heq

/-- a file the model opens has passed the gate: its lead is accepted, the checksum stored at
`digestLoc` is the checksum of the header bytes (`digestInput`).  The decidable form
`opened → PredHdr.sealed` (against the reference lead parser) is what the driver evaluates on the
implementation; it is not derived here. -/
theorem open_implies_gate (H : HashFn) (f : Bytes) (h : Format.Hdr) (hok : openFile H f = .ok h) :
    ∃ l : Lead, readLead {} f = .ok l ∧ H l.hashType (digestInput f l) = some l.digest ∧
      l.digest = (f.drop l.digestLoc).take l.ds := by
  obtain ⟨l, hb, _, _, hl, hhb, _⟩ := (openFile_eq_ok H f h).1 hok
  exact ⟨l, hl, (gate H f l hb hhb).1, (readLead_geometry {} f l hl).2.2.2.1⟩

end Zck.C06
