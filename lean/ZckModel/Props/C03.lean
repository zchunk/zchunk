/-
C03 — Memory safety and termination on arbitrary file input (PARTIAL).
Proved about the models: the header / index parser (`Header.lean`: read_lead, read_header_from_file,
read_preface with its optional-element loop, read_index / index_read, read_sig) performs no read
outside the buffer it was given, for EVERY byte string and every pin setting, and every model
function is total (accepted by Lean's termination checker; loops with data-dependent length carry
an explicit bound).  Heap lifetime errors, undefined behaviour in unmodelled code and the
libraries underneath are only searched (ASan/UBSan runs), never proved absent.
-/
import ZckModel.HeaderLemmas

namespace Zck.C03
open Zck.Header Zck.Res

theorem open_no_oob (H : HashFn) (f : Bytes) : NoOob (openFile H f) := openFile_noOob H f

theorem lead_no_oob (pins : Pins) (f : Bytes) : NoOob (readLead pins f) := readLead_noOob pins f

theorem header_no_oob (H : HashFn) (f : Bytes) (l : Lead) : NoOob (readHeader H f l) := readHeader_noOob H f l

/-- the optional-element loop cannot move the cursor backwards or past the header: every
accepted element leaves the cursor within the header -/
theorem optLoop_cursor (hb : Bytes) (base maxLen : Nat) : ∀ (n length r : Nat),
    length ≤ maxLen → optLoop hb base maxLen n length = .ok r → length ≤ r ∧ r ≤ maxLen :=
  Header.optLoop_cursor hb base maxLen

end Zck.C03
