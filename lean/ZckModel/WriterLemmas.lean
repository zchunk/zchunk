/-
The chunker model (`Writer.lean`) taken apart into its steps — the outcomes of `zck_end_chunk`, one examination of a byte by the
automatic branch, one round of the manual branch — so that no proof unfolds the model functions again.  A property of the state is
carried through any sequence of calls by checking it on the three things the write path does to a state (`Kept`: roll a byte into
the hash, end a chunk, take a byte); the bytes are accounted for by `content`.
-/
import ZckModel.Writer

namespace Zck.Writer

def Wf (st : St) : Prop := st.curLen = st.curR.length

def content (st : St) : Bytes := st.chunks.flatten ++ st.cur

/-- the limits as `comp_init` leaves them -/
def Legal (cfg : Cfg) : Prop := 0 < cfg.chunkMax ∧ cfg.chunkMin ≤ cfg.chunkMax

theorem wf_init : Wf {} := rfl

@[simp] theorem cur_length (st : St) : st.cur.length = st.curR.length := by simp [St.cur]

theorem written_append : ∀ (a b : List Op), written (a ++ b) = written a ++ written b
  | [], b => rfl
  | .write bs :: a, b => by simp [written, written_append a b]
  | .endChunk :: a, b => by simp [written, written_append a b]

theorem clamp_hi (a m : Nat) : (if a > m then m else a) = min a m := by
  rw [Nat.min_def]
  by_cases h : a ≤ m
  · rw [if_pos h, if_neg (Nat.not_lt.mpr h)]
  · rw [if_neg h, if_pos (Nat.lt_of_not_le h)]

theorem clamp_lo (a m : Nat) : (if a < m then m else a) = max a m := by
  by_cases h : a < m
  · rw [if_pos h, Nat.max_eq_right (Nat.le_of_lt h)]
  · rw [if_neg h, Nat.max_eq_left (Nat.le_of_not_lt h)]

theorem autoMax_eq (c : Cfg) : c.autoMax = max (min ((c.mask + 1) * 4) c.chunkMax) c.chunkMin := by
  unfold Cfg.autoMax
  simp only [clamp_hi, clamp_lo]

theorem autoMin_eq (c : Cfg) : c.autoMin = min (max ((c.mask + 1) / 4) c.chunkMin) c.autoMax := by
  unfold Cfg.autoMin
  simp only [clamp_hi, clamp_lo]

theorem le_autoMax (c : Cfg) : c.chunkMin ≤ c.autoMax := by
  rw [autoMax_eq]; exact Nat.le_max_right _ _

theorem autoMax_le (c : Cfg) (h : c.chunkMin ≤ c.chunkMax) : c.autoMax ≤ c.chunkMax := by
  rw [autoMax_eq]; exact Nat.max_le.mpr ⟨Nat.min_le_right _ _, h⟩

theorem autoMax_pos (c : Cfg) (h : 0 < c.chunkMax) : 0 < c.autoMax := by
  rw [autoMax_eq]
  exact Nat.lt_of_lt_of_le (Nat.lt_min.mpr ⟨Nat.mul_pos (Nat.succ_pos _) (by decide), h⟩) (Nat.le_max_left _ _)

theorem autoMin_le (c : Cfg) : c.autoMin ≤ c.autoMax := by
  rw [autoMin_eq]; exact Nat.min_le_right _ _

theorem le_autoMin (c : Cfg) : c.chunkMin ≤ c.autoMin := by
  rw [autoMin_eq]; exact Nat.le_min.mpr ⟨Nat.le_max_right _ _, le_autoMax c⟩

/-- the three outcomes of `zck_end_chunk`: refused, nothing to end, ended -/
theorem endChunk_cases (cfg : Cfg) (st : St) (force : Bool) :
    (endChunk cfg st force = st ∧ force = false ∧ st.curLen < cfg.chunkMin) ∨
    (endChunk cfg st force = { st with buz := none } ∧ st.curLen = 0) ∨
    (endChunk cfg st force = { chunks := st.chunks ++ [st.cur], curR := [], curLen := 0, buz := none } ∧
      (force = true ∨ cfg.chunkMin ≤ st.curLen) ∧ st.curLen ≠ 0) := by
  unfold endChunk
  split
  · rename_i h; exact Or.inl ⟨rfl, by simpa using h.1, h.2⟩
  · rename_i h
    split
    · rename_i h0; exact Or.inr (Or.inl ⟨rfl, h0⟩)
    · rename_i h0
      refine Or.inr (Or.inr ⟨rfl, ?_, h0⟩)
      cases force <;> simp_all

theorem endChunk_content (cfg : Cfg) (st : St) (force : Bool) : content (endChunk cfg st force) = content st := by
  rcases endChunk_cases cfg st force with ⟨h, _⟩ | ⟨h, _⟩ | ⟨h, _⟩ <;> rw [h]
  · rfl
  · simp [content, St.cur]

theorem endChunk_wf (cfg : Cfg) (st : St) (force : Bool) (hw : Wf st) : Wf (endChunk cfg st force) := by
  rcases endChunk_cases cfg st force with ⟨h, _⟩ | ⟨h, _⟩ | ⟨h, _⟩ <;> rw [h]
  · exact hw
  · exact hw
  · rfl

theorem endChunk_curLen_le (cfg : Cfg) (st : St) (force : Bool) : (endChunk cfg st force).curLen ≤ st.curLen := by
  rcases endChunk_cases cfg st force with ⟨h, _⟩ | ⟨h, _⟩ | ⟨h, _⟩ <;> rw [h]
  · exact Nat.le_refl _
  · exact Nat.le_refl _
  · exact Nat.zero_le _

theorem endChunk_force_cur (cfg : Cfg) (st : St) (hw : Wf st) : (endChunk cfg st true).cur = [] := by
  rcases endChunk_cases cfg st true with ⟨_, h, _⟩ | ⟨h, h0⟩ | ⟨h, _⟩
  · cases h
  · rw [h]
    exact List.reverse_eq_nil_iff.mpr (List.eq_nil_of_length_eq_zero (by rw [← hw]; exact h0))
  · rw [h]; rfl

theorem endChunk_full (cfg : Cfg) (hl : Legal cfg) (st : St) (h : st.curLen = cfg.chunkMax) :
    endChunk cfg st false = { chunks := st.chunks ++ [st.cur], curR := [], curLen := 0, buz := none } := by
  rcases endChunk_cases cfg st false with ⟨_, _, hlt⟩ | ⟨_, h0⟩ | ⟨he, _⟩
  · exact absurd hl.2 (Nat.not_le_of_lt (h ▸ hlt))
  · exact absurd hl.1 (h ▸ h0 ▸ Nat.lt_irrefl 0)
  · exact he

/-- the chunk list is a pure accumulator of `zck_end_chunk` -/
theorem endChunk_acc (cfg : Cfg) (st : St) (force : Bool) :
    endChunk cfg st force =
      { endChunk cfg { st with chunks := [] } force with
        chunks := st.chunks ++ (endChunk cfg { st with chunks := [] } force).chunks } := by
  unfold endChunk
  by_cases h1 : ¬ force ∧ st.curLen < cfg.chunkMin
  · simp only [if_pos h1, List.append_nil]
  · by_cases h2 : st.curLen = 0
    · simp only [if_neg h1, if_pos h2, List.append_nil]
    · simp only [if_neg h1, if_neg h2, List.nil_append, St.cur]

/-- the loop of `zck_write` wants a boundary in front of `b`: the rolling hash, `b` rolled in, has its low bits clear, or the chunk
under construction has reached `chunk_auto_max` -/
def Boundary (cfg : Cfg) (st : St) (b : UInt8) : Prop :=
  (buzUpdate cfg.W st.buz b).2.toNat % (cfg.mask + 1) = 0 ∨ st.curLen ≥ cfg.autoMax

theorem feedAuto_take {cfg : Cfg} {st : St} {b : UInt8} (fuel : Nat) (h : ¬ Boundary cfg st b) :
    feedAuto cfg (fuel + 1) st b =
      some { st with curR := b :: st.curR, curLen := st.curLen + 1, buz := (buzUpdate cfg.W st.buz b).1 } := by
  unfold Boundary at h
  rw [feedAuto]
  simp only
  rw [if_neg h]

theorem feedAuto_refuse {cfg : Cfg} {st : St} {b : UInt8} (fuel : Nat) (h : Boundary cfg st b) (hlt : st.curLen < cfg.autoMin) :
    feedAuto cfg (fuel + 1) st b = feedAuto cfg fuel { st with buz := (buzUpdate cfg.W st.buz b).1 } b := by
  unfold Boundary at h
  rw [feedAuto]
  simp only
  rw [if_pos h, if_pos hlt]

theorem feedAuto_accept {cfg : Cfg} {st : St} {b : UInt8} (fuel : Nat) (h : Boundary cfg st b) (hge : cfg.autoMin ≤ st.curLen) :
    feedAuto cfg (fuel + 1) st b = feedAuto cfg fuel (endChunk cfg { st with buz := (buzUpdate cfg.W st.buz b).1 } false) b := by
  unfold Boundary at h
  rw [feedAuto]
  simp only
  rw [if_pos h, if_neg (Nat.not_lt.mpr hge)]

theorem writeManual_fits {cfg : Cfg} {st : St} {bs : Bytes} (fuel : Nat) (h : st.curLen + bs.length ≤ cfg.chunkMax) :
    writeManual cfg (fuel + 1) st bs = { st with curR := bs.reverse ++ st.curR, curLen := st.curLen + bs.length } := by
  rw [writeManual, if_neg (Nat.not_lt.mpr h)]

theorem writeManual_split {cfg : Cfg} {st : St} {bs : Bytes} (fuel : Nat) (h : cfg.chunkMax < st.curLen + bs.length) :
    writeManual cfg (fuel + 1) st bs =
      writeManual cfg fuel
        (endChunk cfg { st with curR := (bs.take (cfg.chunkMax - st.curLen)).reverse ++ st.curR,
                                curLen := st.curLen + (bs.take (cfg.chunkMax - st.curLen)).length } false)
        (bs.drop (cfg.chunkMax - st.curLen)) := by
  rw [writeManual, if_pos h]

theorem applyOp_auto {cfg : Cfg} (st : St) (bs : Bytes) (hm : cfg.manual = false) :
    applyOp cfg st (.write bs) = writeAuto cfg st bs := by
  cases bs with
  | nil => rfl
  | cons x xs => simp [applyOp, hm]

theorem applyOp_manual {cfg : Cfg} (st : St) (bs : Bytes) (hm : cfg.manual = true) :
    applyOp cfg st (.write bs) = some (if bs = [] then st else writeManual cfg (bs.length + 1) st bs) := by
  cases bs with
  | nil => rfl
  | cons x xs => simp [applyOp, hm]

theorem writeAuto_cons_eq_some {cfg : Cfg} {st st' : St} {b : UInt8} {bs : Bytes} :
    writeAuto cfg st (b :: bs) = some st' ↔ ∃ s, feedAuto cfg (refeedFuel cfg) st b = some s ∧ writeAuto cfg s bs = some st' := by
  rw [writeAuto]
  cases feedAuto cfg (refeedFuel cfg) st b with
  | none => exact ⟨nofun, fun ⟨_, h, _⟩ => nomatch h⟩
  | some s => exact ⟨fun h => ⟨s, rfl, h⟩, fun ⟨_, h, h'⟩ => Option.some.inj h ▸ h'⟩

theorem run_cons_eq_some {cfg : Cfg} {st st' : St} {op : Op} {ops : List Op} :
    run cfg st (op :: ops) = some st' ↔ ∃ s, applyOp cfg st op = some s ∧ run cfg s ops = some st' := by
  rw [run]
  cases applyOp cfg st op with
  | none => exact ⟨nofun, fun ⟨_, h, _⟩ => nomatch h⟩
  | some s => exact ⟨fun h => ⟨s, rfl, h⟩, fun ⟨_, h, h'⟩ => Option.some.inj h ▸ h'⟩

/-- the rule for one byte through the automatic branch: `P` holds while the byte is examined and re-examined (it survives rolling
the byte into the hash, and ending a chunk of at least `auto_min` bytes), `Q` once the byte is taken (below `auto_max`) -/
theorem feedAuto_rule (cfg : Cfg) (b : UInt8) (P Q : St → Prop)
    (roll : ∀ st, P st → P { st with buz := (buzUpdate cfg.W st.buz b).1 })
    (endc : ∀ st, P st → cfg.autoMin ≤ st.curLen → P (endChunk cfg st false))
    (take : ∀ st, P st → st.curLen < cfg.autoMax → Q { st with curR := b :: st.curR, curLen := st.curLen + 1 }) :
    ∀ (fuel : Nat) (st st' : St), P st → feedAuto cfg fuel st b = some st' → Q st'
  | 0, _, _, _, h => by simp [feedAuto] at h
  | fuel + 1, st, st', hp, h => by
    have hr := roll st hp
    by_cases hb : Boundary cfg st b
    · rcases Nat.lt_or_ge st.curLen cfg.autoMin with hlt | hge
      · rw [feedAuto_refuse fuel hb hlt] at h
        exact feedAuto_rule cfg b P Q roll endc take fuel _ st' hr h
      · rw [feedAuto_accept fuel hb hge] at h
        exact feedAuto_rule cfg b P Q roll endc take fuel _ st' (endc _ hr hge) h
    · rw [feedAuto_take fuel hb, Option.some.injEq] at h
      rw [← h]
      exact take _ hr (Nat.lt_of_not_le fun hge => hb (Or.inr hge))

theorem writeAuto_inv (cfg : Cfg) (I : St → Prop)
    (step : ∀ b st st', I st → feedAuto cfg (refeedFuel cfg) st b = some st' → I st') :
    ∀ (bs : Bytes) (st st' : St), I st → writeAuto cfg st bs = some st' → I st'
  | [], st, st', hi, h => by simp only [writeAuto, Option.some.injEq] at h; rw [← h]; exact hi
  | b :: bs, st, st', hi, h => by
    obtain ⟨s, hf, h⟩ := writeAuto_cons_eq_some.mp h
    exact writeAuto_inv cfg I step bs s st' (step b st s hi hf) h

/-- `I` survives each of the three things the write path does to a state: roll a byte into the hash, end a chunk, take a byte.
Every function of the write path is a composition of these (`kept_feedAuto` ... `kept_run`), so an invariant that does not depend on
where the boundaries fall is checked on the three steps and nowhere else. -/
structure Kept (cfg : Cfg) (I : St → Prop) : Prop where
  roll : ∀ st b, I st → I { st with buz := (buzUpdate cfg.W st.buz b).1 }
  endc : ∀ st force, I st → I (endChunk cfg st force)
  take : ∀ st b, I st → I { st with curR := b :: st.curR, curLen := st.curLen + 1 }

section
variable {cfg : Cfg} {I : St → Prop} (k : Kept cfg I)
include k

theorem kept_takes : ∀ (bs : Bytes) (st : St), I st →
    I { st with curR := bs.reverse ++ st.curR, curLen := st.curLen + bs.length }
  | [], _, h => by simpa using h
  | b :: bs, st, h => by
    have := kept_takes bs _ (k.take st b h)
    simpa [Nat.add_assoc, Nat.add_comm 1] using this

theorem kept_feedAuto (b : UInt8) : ∀ (fuel : Nat) (st st' : St), I st → feedAuto cfg fuel st b = some st' → I st' :=
  feedAuto_rule cfg b I I (fun st => k.roll st b) (fun st h _ => k.endc st false h) (fun st h _ => k.take st b h)

theorem kept_writeAuto : ∀ (bs : Bytes) (st st' : St), I st → writeAuto cfg st bs = some st' → I st' :=
  writeAuto_inv cfg I fun b => kept_feedAuto k b _

theorem kept_writeManual : ∀ (fuel : Nat) (st : St) (bs : Bytes), I st → I (writeManual cfg fuel st bs)
  | 0, _, _, hi => hi
  | fuel + 1, st, bs, hi => by
    rcases Nat.lt_or_ge cfg.chunkMax (st.curLen + bs.length) with h | h
    · rw [writeManual_split fuel h]
      exact kept_writeManual fuel _ _ (k.endc _ false (kept_takes k _ st hi))
    · rw [writeManual_fits fuel h]
      exact kept_takes k bs st hi

theorem kept_applyOp (st st' : St) (op : Op) (hi : I st) (h : applyOp cfg st op = some st') : I st' := by
  cases op with
  | endChunk => rw [← Option.some.inj h]; exact k.endc st false hi
  | write bs =>
    cases hm : cfg.manual with
    | false => rw [applyOp_auto st bs hm] at h; exact kept_writeAuto k bs st st' hi h
    | true =>
      rw [applyOp_manual st bs hm] at h
      rw [← Option.some.inj h]
      split
      · exact hi
      · exact kept_writeManual k _ st bs hi

theorem kept_run : ∀ (ops : List Op) (st st' : St), I st → run cfg st ops = some st' → I st'
  | [], st, st', hi, h => by simp only [run, Option.some.injEq] at h; rw [← h]; exact hi
  | op :: ops, st, st', hi, h => by
    obtain ⟨s, ha, h⟩ := run_cons_eq_some.mp h
    exact kept_run ops s st' (kept_applyOp k st s op hi ha) h

end

theorem kept_wf (cfg : Cfg) : Kept cfg Wf :=
  ⟨fun _ _ h => h, endChunk_wf cfg, fun st b h => by unfold Wf at h ⊢; simp [h]⟩

theorem closeChunks_some {cfg : Cfg} {ops : List Op} {cs : List Bytes} (h : closeChunks cfg ops = some cs) :
    ∃ st, run cfg.norm {} ops = some st ∧ (endChunk cfg.norm st true).chunks = cs := by
  unfold closeChunks at h
  cases hr : run cfg.norm {} ops with
  | none => rw [hr] at h; cases h
  | some st => rw [hr] at h; exact ⟨st, rfl, by simpa using h⟩

def NE (st : St) : Prop := ∀ p ∈ st.chunks, p ≠ []

theorem endChunk_ne (cfg : Cfg) (st : St) (force : Bool) (hw : Wf st) (h : NE st) : NE (endChunk cfg st force) := by
  rcases endChunk_cases cfg st force with ⟨he, _⟩ | ⟨he, _⟩ | ⟨he, _, hn⟩ <;> rw [he]
  · exact h
  · exact h
  · intro p hp
    rcases List.mem_append.mp hp with hp | hp
    · exact h p hp
    · rw [List.mem_singleton] at hp
      subst hp
      intro he
      exact hn (by rw [hw, ← cur_length, he]; rfl)

theorem kept_ne (cfg : Cfg) : Kept cfg (fun st => Wf st ∧ NE st) :=
  ⟨fun _ _ h => h, fun st force h => ⟨endChunk_wf cfg st force h.1, endChunk_ne cfg st force h.1 h.2⟩,
   fun st b h => ⟨(kept_wf cfg).take st b h.1, h.2⟩⟩

/-- the chunker never finishes an empty chunk: every chunk `zck_close` hands to the index has at least one byte -/
theorem closeChunks_nonempty (cfg : Cfg) (ops : List Op) (cs : List Bytes) (h : closeChunks cfg ops = some cs) :
    ∀ p ∈ cs, p ≠ [] := by
  obtain ⟨st, hr, rfl⟩ := closeChunks_some h
  exact ((kept_ne cfg.norm).endc st true
    (kept_run (kept_ne cfg.norm) ops {} st ⟨wf_init, fun p hp => by simp at hp⟩ hr)).2

theorem feedAuto_content (cfg : Cfg) (b : UInt8) (fuel : Nat) (st st' : St) (h : feedAuto cfg fuel st b = some st') :
    content st' = content st ++ [b] :=
  feedAuto_rule cfg b (fun s => content s = content st) (fun s => content s = content st ++ [b]) (fun _ h => h)
    (fun s h _ => by rw [endChunk_content]; exact h) (fun s h _ => by rw [← h]; simp [content, St.cur]) fuel st st' rfl h

theorem writeAuto_content (cfg : Cfg) : ∀ (bs : Bytes) (st st' : St),
    writeAuto cfg st bs = some st' → content st' = content st ++ bs
  | [], st, st', h => by simp only [writeAuto, Option.some.injEq] at h; rw [← h]; simp
  | x :: bs, st, st', h => by
    obtain ⟨s, hf, h⟩ := writeAuto_cons_eq_some.mp h
    rw [writeAuto_content cfg bs s st' h, feedAuto_content cfg x _ st s hf]; simp

theorem writeAuto_append (cfg : Cfg) : ∀ (a : Bytes) (st : St) (b : Bytes),
    writeAuto cfg st (a ++ b) = (writeAuto cfg st a).bind (fun s => writeAuto cfg s b)
  | [], st, b => by simp [writeAuto]
  | x :: a, st, b => by
    simp only [List.cons_append, writeAuto]
    cases feedAuto cfg (refeedFuel cfg) st x with
    | none => rfl
    | some s => exact writeAuto_append cfg a s b

theorem feedAuto_acc (cfg : Cfg) : ∀ (fuel : Nat) (st : St) (b : UInt8),
    feedAuto cfg fuel st b =
      (feedAuto cfg fuel { st with chunks := [] } b).map (fun s => { s with chunks := st.chunks ++ s.chunks })
  | 0, st, b => by simp [feedAuto]
  | fuel + 1, st, b => by
    -- whether a boundary is wanted, and whether it is refused, does not depend on the chunk list
    by_cases hb : Boundary cfg st b
    · rcases Nat.lt_or_ge st.curLen cfg.autoMin with hlt | hge
      · rw [feedAuto_refuse fuel hb hlt, feedAuto_refuse (st := { st with chunks := [] }) fuel hb hlt]
        exact feedAuto_acc cfg fuel { st with buz := _ } b
      · rw [feedAuto_accept fuel hb hge, feedAuto_accept (st := { st with chunks := [] }) fuel hb hge,
          feedAuto_acc cfg fuel (endChunk cfg { st with buz := _ } false) b,
          feedAuto_acc cfg fuel (endChunk cfg { st with chunks := [], buz := _ } false) b,
          endChunk_acc cfg { st with buz := _ } false, Option.map_map]
        congr 1
        funext s; simp [List.append_assoc]
    · rw [feedAuto_take fuel hb, feedAuto_take (st := { st with chunks := [] }) fuel hb]
      simp

theorem writeAuto_acc (cfg : Cfg) : ∀ (bs : Bytes) (st : St),
    writeAuto cfg st bs =
      (writeAuto cfg { st with chunks := [] } bs).map (fun s => { s with chunks := st.chunks ++ s.chunks })
  | [], st => by simp [writeAuto]
  | x :: bs, st => by
    simp only [writeAuto]
    rw [feedAuto_acc cfg _ st x]
    cases feedAuto cfg (refeedFuel cfg) { st with chunks := [] } x with
    | none => rfl
    | some s =>
      simp only [Option.map_some]
      rw [writeAuto_acc cfg bs { s with chunks := st.chunks ++ s.chunks }]
      conv => rhs; rw [writeAuto_acc cfg bs s]
      simp only [Option.map_map]
      congr 1
      funext t; simp [List.append_assoc]

/-- with legal limits and the chunk under construction within the maximum, a manual write takes every byte: a full chunk is always
ended, and every round but the first consumes at least one byte, so `|bs| + 1` rounds suffice -/
theorem writeManual_content (cfg : Cfg) (hl : Legal cfg) : ∀ (fuel : Nat) (st : St) (bs : Bytes),
    st.curLen ≤ cfg.chunkMax → bs.length + (if st.curLen = cfg.chunkMax then 1 else 0) ≤ fuel →
    content (writeManual cfg fuel st bs) = content st ++ bs ∧ (writeManual cfg fuel st bs).curLen ≤ cfg.chunkMax
  | 0, st, bs, hle, hf => by
    rw [List.eq_nil_of_length_eq_zero (by omega : bs.length = 0)]
    exact ⟨(List.append_nil _).symm, hle⟩
  | fuel + 1, st, bs, hle, hf => by
    rcases Nat.lt_or_ge cfg.chunkMax (st.curLen + bs.length) with hover | hfit
    · rw [writeManual_split fuel hover]
      generalize hk : cfg.chunkMax - st.curLen = k
      have hkb : k ≤ bs.length := by omega
      have htl : (bs.take k).length = k := by rw [List.length_take]; exact Nat.min_eq_left hkb
      generalize hst1 : ({ st with curR := (bs.take k).reverse ++ st.curR, curLen := st.curLen + (bs.take k).length } : St) = st1
      have hlen1 : st1.curLen = cfg.chunkMax := by
        rw [← hst1]; show st.curLen + (bs.take k).length = cfg.chunkMax
        rw [htl, ← hk]; exact Nat.add_sub_of_le hle
      have hc1 : content st1 = content st ++ bs.take k := by rw [← hst1]; simp [content, St.cur]
      have h0 : (endChunk cfg st1 false).curLen = 0 := by rw [endChunk_full cfg hl st1 hlen1]
      -- the rest is shorter by `k`, and `k ≥ 1` unless the chunk was full already
      have hrest : bs.length ≤ fuel + k := by split at hf <;> omega
      obtain ⟨r1, r2⟩ := writeManual_content cfg hl fuel (endChunk cfg st1 false) (bs.drop k) (h0 ▸ Nat.zero_le _)
        (by rw [h0, if_neg (Nat.ne_of_lt hl.1), Nat.add_zero, List.length_drop]; exact Nat.sub_le_of_le_add hrest)
      exact ⟨by rw [r1, endChunk_content, hc1, List.append_assoc, List.take_append_drop], r2⟩
    · rw [writeManual_fits fuel hfit]
      exact ⟨by simp [content, St.cur], hfit⟩

end Zck.Writer
