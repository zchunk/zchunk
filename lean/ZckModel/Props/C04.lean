/-
C04 — Delta update reconstructs the new file exactly, fetching only what is missing.
Soundness of the fetch loop of the model of the update procedure (`Update.lean`), on top of the theorems about the callbacks (C05),
for an ARBITRARY initial target (which is what makes C11 a corollary), hash function and regex answers: whatever the loop does,
every chunk it leaves marked valid is present (hashes to its checksum at its extent), valid chunks are never modified, and a run
that ends without error has nothing missing.  The stages around the loop are in `C04Sound.lean`, completeness for well-formed
responses in `C04Complete.lean`.
-/
import ZckModel.Update
import ZckModel.Props.C05

namespace Zck.C04
open Zck.Format Zck.Dl Zck.Copy Zck.C05 Zck.Update

theorem len_preserved (e : Env) (n : Nat) : Preserved e (fun st => n ≤ st.file.length) :=
  preserved_of_file_valid e (fun f _ => n ≤ f.length) (fun f _ off d h => Nat.le_trans h (length_writeAt_ge f off d))
    (fun _ _ _ _ h => h)

/-- every chunk with stored bytes that is marked valid is present: its extent lies in the file and hashes to its index
checksum (a chunk without stored bytes has no extent; the scan marks an empty dictionary entry valid unconditionally) -/
def AllOk (e : Env) (file : Bytes) (valid : List Int) : Prop :=
  ∀ (k : Nat) (tc : Chunk), e.hdr.chunks[k]? = some tc → tc.compLen ≠ 0 → valid.getD k 0 = 1 → ChunkOk e file tc

theorem session_allOk (e : Env) (hd : Disj e) (st : St) (lines frags : List Bytes) (stop clear : Bool)
    (h1 : st.tgtCheck = none) (h2 : st.writeInChunk = 0) (hok : AllOk e st.file st.valid) :
    let fin := (feed e stop clear (feedHdrs e st lines []).2 frags []).2
    AllOk e fin.file fin.valid := by
  intro fin k tc htc hzz hv
  by_cases hv0 : st.valid.getD k 0 = 1
  · -- valid before: the session writes only inside extents of other chunks (C05 confinement), which are disjoint from this one
    refine chunkOk_of_getD e st.file fin.file tc (Or.inl ?_) (fun i hi1 hi2 => ?_) (hok k tc htc hzz hv0)
    · exact pres_session e (len_preserved e st.file.length) stop clear lines frags st (Nat.le_refl _)
    · apply (C05.confined e st lines frags stop clear h1 h2).1
      intro k' tc' htc' ha'
      have := hd k k' tc tc' htc htc' (fun heq => ha'.1 (heq ▸ hv0))
      omega
  · exact C05.verified e hd st lines frags stop clear h1 h2 k tc htc hv0 hv

/-- the environment of a round, as far as presence of chunks is concerned -/
def envOf (H : HashFn) (rx : Rx) (th : Hdr) (ridx : List RChunk) : Env := { H := H, rx := rx, hdr := th, ridx := ridx }

/-- one transfer, for arbitrary response bytes, fragmentation and regex answers -/
theorem session_sound (e : Env) (hd : Disj e) (file : Bytes) (valid : List Int) (lines frags : List Bytes)
    (hok : AllOk e file valid) :
    AllOk e (session e file valid lines frags).2.2.file (session e file valid lines frags).2.2.valid ∧
    (∀ k, valid.getD k 0 = 1 → (session e file valid lines frags).2.2.valid.getD k 0 = 1) ∧
    (∀ i, i < e.dataOff → (session e file valid lines frags).2.2.file.getD i 0 = file.getD i 0) := by
  unfold session
  have hc := C05.confined e { file := file, pos := 0, valid := valid } lines frags true false rfl rfl
  exact ⟨session_allOk e hd { file := file, pos := 0, valid := valid } lines frags true false rfl rfl hok, hc.2,
    fun i hi => hc.1 i (fun _ _ _ _ => Or.inl (by omega))⟩

theorem round_some (n : Nat) (H : HashFn) (rx : Rx) (B : Bytes) (th : Hdr) (limit : Int) (frag : Nat) (cut : Option Nat) (file : Bytes) (valid : List Int)
    (r : String) (f : Bytes) (v : List Int) (ok : Bool)
    (h : Update.round n H rx B th limit frag cut file valid = (r, some (f, v, ok))) :
    ∃ ridx lines frags, f = (session (envOf H rx th ridx) file valid lines frags).2.2.file ∧
      v = (session (envOf H rx th ridx) file valid lines frags).2.2.valid := by
  unfold Update.round at h
  dsimp only at h
  generalize (if (reqOf th limit valid).items.isEmpty then "" else (Range.render (reqOf th limit valid).items).getD "") = rtext at h
  by_cases he : rtext.isEmpty = true
  · simp [he] at h
  · simp only [he, Bool.false_eq_true, ↓reduceIte] at h
    cases hc : clip B.length (reqOf th limit valid).items with
    | none => rw [hc] at h; simp at h
    | some rs =>
      rw [hc] at h
      by_cases ha : accepted (session { H := H, rx := rx, hdr := th, ridx := mkRidx (reqOf th limit valid).index 0 } file valid
          (respond n B rs).1 (pieces frag (cutBody cut (respond n B rs).2))).1 (respond n B rs).1 = true
      · simp only [ha, not_true_eq_false, ↓reduceIte, Prod.mk.injEq, Option.some.injEq] at h
        exact ⟨_, _, _, h.2.1.symm, h.2.2.1.symm⟩
      · simp [ha] at h

theorem round_sound (n : Nat) (H : HashFn) (rx : Rx) (B : Bytes) (th : Hdr) (limit : Int) (frag : Nat) (cut : Option Nat) (file : Bytes) (valid : List Int)
    (hd : Disj (envOf H rx th [])) (hok : AllOk (envOf H rx th []) file valid)
    (r : String) (f : Bytes) (v : List Int) (ok : Bool)
    (h : Update.round n H rx B th limit frag cut file valid = (r, some (f, v, ok))) :
    AllOk (envOf H rx th []) f v ∧ (∀ k, valid.getD k 0 = 1 → v.getD k 0 = 1) ∧
    (∀ i, i < th.lead + th.headerLen → f.getD i 0 = file.getD i 0) := by
  obtain ⟨ridx, lines, frags, rfl, rfl⟩ := round_some n H rx B th limit frag cut file valid r f v ok h
  -- `Disj` and `AllOk` do not look at the range index of the environment
  exact session_sound (envOf H rx th ridx) hd file valid lines frags hok

/-- C04, soundness of the fetch loop: valid chunks stay valid and present, newly valid ones are present, the header is not
written, and the loop ends without error only with nothing missing -/
theorem loop_sound (H : HashFn) (rx : Rx) (B : Bytes) (th : Hdr) (limit : Int) (frag : Nat) (drop : Option (Nat × Nat))
    (hd : Disj (envOf H rx th [])) : ∀ (fuel : Nat) (file : Bytes) (valid : List Int) (reqs : List String) (n : Nat),
    AllOk (envOf H rx th []) file valid →
    let out := Update.loop H rx B th limit frag drop fuel file valid reqs n
    AllOk (envOf H rx th []) out.1 out.2.1 ∧ (∀ k, valid.getD k 0 = 1 → out.2.1.getD k 0 = 1) ∧
    (out.2.2.2.2 = none → countEq out.2.1 0 = 0) ∧
    (∀ i, i < th.lead + th.headerLen → out.1.getD i 0 = file.getD i 0)
  | 0, file, valid, reqs, n, hok => by
    intro out
    simp only [out, Update.loop]
    exact ⟨hok, fun _ h => h, fun h => by simp at h, fun _ _ => trivial⟩
  | fuel + 1, file, valid, reqs, n, hok => by
    intro out
    simp only [out]
    unfold Update.loop
    by_cases h0 : countEq valid 0 = 0
    · rw [if_pos h0]
      exact ⟨hok, fun _ h => h, fun _ => h0, fun _ _ => rfl⟩
    rw [if_neg h0]
    generalize heq : Update.round (n + 1) H rx B th limit frag _ file valid = rd
    obtain ⟨r, _ | ⟨f, v, _ | _⟩⟩ := rd
    · exact ⟨hok, fun _ h => h, fun h => by simp at h, fun _ _ => rfl⟩
    · have := round_sound _ H rx B th limit frag _ file valid hd hok r f v false heq
      exact ⟨this.1, this.2.1, fun h => by simp at h, this.2.2⟩
    · have hr := round_sound _ H rx B th limit frag _ file valid hd hok r f v true heq
      have ih := loop_sound H rx B th limit frag drop hd fuel f v (r :: reqs) (n + 1) hr.1
      exact ⟨ih.1, fun k hk => ih.2.1 k (hr.2.1 k hk), ih.2.2.1, fun i hi => by rw [ih.2.2.2 i hi, hr.2.2 i hi]⟩

def toyH : HashFn := fun _ bs => some [bs.foldl (· + ·) 0]
def toyRx : Rx := { comp := fun _ => true, hdr := fun _ => none, part := fun _ _ => none, endm := fun _ _ => false }
def toyHdr : Hdr :=
  { detached := false, hashType := 1, chunkHashType := 3, flags := 0, compType := 0, lead := 4, headerLen := 2,
    headerDigest := [], dataDigest := [], count := 3,
    chunks := [⟨0, [0], none, 0, 0, 0⟩, ⟨1, [6], none, 3, 3, 0⟩, ⟨2, [9], none, 2, 2, 3⟩], dataLen := 5 }
def toyB : Bytes := [9, 9, 9, 9, 9, 9, 1, 2, 3, 4, 5]

/-- the hypotheses of `loop_sound` hold of a concrete state -/
example : Disj (envOf toyH toyRx toyHdr []) ∧ AllOk (envOf toyH toyRx toyHdr []) [9, 9, 9, 9, 9, 9, 7, 7, 7, 4, 5] [0, 0, 1] := by
  refine ⟨disj_of_runFrom _ (by simp [envOf, toyHdr, C13.RunFrom]), ?_⟩
  intro k
  match k with
  | 0 => intro tc _ _ hv; simp at hv
  | 1 => intro tc _ _ hv; simp at hv
  | 2 => intro tc htc _ _; simp [envOf, toyHdr] at htc; subst htc; simp [ChunkOk, envOf, toyHdr, Env.dataOff, toyH]
  | k + 3 => intro tc htc _ _; simp [envOf, toyHdr] at htc

/-- one transfer on that state (request: chunk 1; body in 2-byte fragments): the file becomes B, all chunks valid -/
example : (session (envOf toyH toyRx toyHdr (mkRidx [(1, 3)] 0)) [9, 9, 9, 9, 9, 9, 7, 7, 7, 4, 5] [0, 0, 1] [] [[1, 2], [3]]).2.2.file = toyB ∧
    (session (envOf toyH toyRx toyHdr (mkRidx [(1, 3)] 0)) [9, 9, 9, 9, 9, 9, 7, 7, 7, 4, 5] [0, 0, 1] [] [[1, 2], [3]]).2.2.valid = [0, 1, 1] := by
  decide +kernel

end Zck.C04
