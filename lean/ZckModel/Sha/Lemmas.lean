/- Helper lemmas for C18 (the property theorems are in Props/C18.lean): what is common to the SHA-2 and the SHA-1 streaming
code, then `final` of SHA-2, then SHA-1.  Both `update`s, and the last blocks `final` hashes, do the same to the state and the
pending bytes: fold the whole blocks of `pending ++ message`, keep the rest (`GoodHB.absorb`); they differ in their counters
only.  At the end the digest lengths of the specified hashes, which C02 needs. -/
import ZckModel.Sha.Bundled

namespace Zck.Sha

theorem foldl_flatten_inv {σ α : Type} {f : σ → List α → σ} {I : σ → List α → Prop}
    (step : ∀ c p m, I c p → I (f c m) (p ++ m)) :
    ∀ (segs : List (List α)) (c : σ) (p : List α), I c p → I (segs.foldl f c) (p ++ segs.flatten)
  | [], _, _, h => by simpa using h
  | s :: rest, c, p, h => by
    simpa [List.append_assoc] using foldl_flatten_inv step rest _ _ (step c p s h)

theorem foldBlocks_append (A : Algo) (s : A.St) (a b : Bytes) (n m : Nat)
    (ha : a.length = n * A.bs) :
    foldBlocks A s (a ++ b) (n + m) = foldBlocks A (foldBlocks A s a n) b m := by
  induction n generalizing s a with
  | zero =>
    have : a = [] := List.eq_nil_of_length_eq_zero (by simpa using ha)
    subst this; simp [foldBlocks]
  | succ n ih =>
    have hlen : A.bs ≤ a.length := by rw [ha, Nat.succ_mul]; omega
    rw [show n + 1 + m = (n + m) + 1 by omega]
    simp only [foldBlocks]
    rw [List.take_append_of_le_length hlen, List.drop_append_of_le_length hlen]
    apply ih
    rw [List.length_drop, ha, Nat.succ_mul]; omega

theorem foldBlocks_prefix (A : Algo) (s : A.St) (a b : Bytes) (n : Nat)
    (ha : a.length = n * A.bs) :
    foldBlocks A s (a ++ b) n = foldBlocks A s a n := by
  simpa [foldBlocks] using foldBlocks_append A s a b n 0 ha

theorem foldBlocks_take (A : Algo) (s : A.St) (a : Bytes) (n : Nat) (h : n * A.bs ≤ a.length) :
    foldBlocks A s (a.take (n * A.bs)) n = foldBlocks A s a n := by
  have := foldBlocks_prefix A s (a.take (n * A.bs)) (a.drop (n * A.bs)) n
    (List.length_take_of_le h)
  rwa [List.take_append_drop, eq_comm] at this

/-- the whole blocks of `buf ++ msg` and the rest, as both `update`s cut them out when there is at least one:
the first block is `buf` filled up from `msg`, the others lie in `msg` -/
theorem blocks_append (A : Algo) (s : A.St) (buf msg : Bytes) (hlt : buf.length < A.bs)
    (h : A.bs ≤ buf.length + msg.length) :
    (buf ++ msg).length / A.bs = (msg.drop (A.bs - buf.length)).length / A.bs + 1 ∧
    ∀ n, foldBlocks A s (buf ++ msg) (n + 1) =
        foldBlocks A (A.comp s (buf ++ msg.take (A.bs - buf.length))) (msg.drop (A.bs - buf.length)) n ∧
      (buf ++ msg).drop ((n + 1) * A.bs) = (msg.drop (A.bs - buf.length)).drop (n * A.bs) := by
  have hd : (buf ++ msg).drop A.bs = msg.drop (A.bs - buf.length) := by
    rw [List.drop_append, List.drop_of_length_le (Nat.le_of_lt hlt), List.nil_append]
  refine ⟨?_, fun n => ⟨?_, ?_⟩⟩
  · rw [← Nat.add_div_right _ A.bsPos]; congr 1; simp only [List.length_append, List.length_drop]; omega
  · simp only [foldBlocks, hd, List.take_append, List.take_of_length_le (Nat.le_of_lt hlt)]
  · rw [Nat.succ_mul, Nat.add_comm, ← List.drop_drop, hd]

/-- what the context holds after the message prefix `p` has been fed (counter aside): the whole blocks of `p`
folded into `h`, the rest pending -/
def GoodHB (A : Algo) (c : Ctx A) (p : Bytes) : Prop :=
  c.buf.length < A.bs ∧ ∃ (bp : Bytes) (n : Nat), p = bp ++ c.buf ∧ bp.length = n * A.bs ∧ c.h = foldBlocks A A.iv bp n

theorem goodHB_init (A : Algo) : GoodHB A (Ctx.init A) [] :=
  ⟨A.bsPos, [], 0, rfl, by simp, rfl⟩

theorem GoodHB.le_length {A : Algo} {c : Ctx A} {p : Bytes} (hg : GoodHB A c p) : c.buf.length ≤ p.length := by
  obtain ⟨_, bp, n, rfl, _, _⟩ := hg
  simp

theorem GoodHB.absorb {A : Algo} {c : Ctx A} {p : Bytes} (hg : GoodHB A c p) (msg : Bytes) (c' : Ctx A)
    (hh : c'.h = foldBlocks A c.h (c.buf ++ msg) ((c.buf ++ msg).length / A.bs))
    (hb : c'.buf = (c.buf ++ msg).drop ((c.buf ++ msg).length / A.bs * A.bs)) :
    GoodHB A c' (p ++ msg) := by
  obtain ⟨_, bp, n, rfl, hbp, h0⟩ := hg
  rw [List.append_assoc]
  generalize c.buf ++ msg = all at hh hb ⊢
  have hk : (all.take (all.length / A.bs * A.bs)).length = all.length / A.bs * A.bs :=
    List.length_take_of_le (Nat.div_mul_le_self _ _)
  refine ⟨?_, bp ++ all.take (all.length / A.bs * A.bs), n + all.length / A.bs, ?_, ?_, ?_⟩
  · rw [hb, List.length_drop, ← Nat.mod_eq_sub_div_mul]; exact Nat.mod_lt _ A.bsPos
  · rw [hb, List.append_assoc, List.take_append_drop]
  · rw [List.length_append, hbp, hk, Nat.add_mul]
  · rw [foldBlocks_append A A.iv bp _ n _ hbp, ← h0, hh, foldBlocks_take A c.h all _ (Nat.div_mul_le_self _ _)]

theorem GoodHB.absorb_blocks {A : Algo} {c : Ctx A} {p : Bytes} (hg : GoodHB A c p) (msg : Bytes) (k : Nat)
    (hlen : (c.buf ++ msg).length = k * A.bs) (t : Nat) :
    GoodHB A ⟨foldBlocks A c.h (c.buf ++ msg) k, [], t⟩ (p ++ msg) :=
  hg.absorb msg _ (by rw [hlen, Nat.mul_div_cancel _ A.bsPos])
    (by rw [hlen, Nat.mul_div_cancel _ A.bsPos, List.drop_of_length_le (Nat.le_of_eq hlen)])

theorem GoodHB.out_eq_hash {A : Algo} {c : Ctx A} {m : Bytes} (hg : GoodHB A c (pad A m)) : A.out c.h = hash A m := by
  obtain ⟨hlt, bp, n, hp, hbp, h0⟩ := hg
  have hn : (pad A m).length / A.bs = n := by
    rw [hp, List.length_append, hbp, Nat.mul_comm, Nat.mul_add_div A.bsPos, Nat.div_eq_of_lt hlt]; rfl
  unfold hash
  rw [hn, hp, foldBlocks_prefix A A.iv bp _ n hbp, h0]

theorem update_eq (A : Algo) (W : Widths) (c : Ctx A) (msg : Bytes) (hlt : c.buf.length < A.bs)
    (ht : c.tot < 2 ^ W.totBits) :
    update A W c msg =
      ⟨foldBlocks A c.h (c.buf ++ msg) ((c.buf ++ msg).length / A.bs),
       (c.buf ++ msg).drop ((c.buf ++ msg).length / A.bs * A.bs),
       (c.tot + (c.buf ++ msg).length / A.bs * A.bs) % 2 ^ W.totBits⟩ := by
  unfold update
  by_cases h : c.buf.length + msg.length < A.bs
  · simp [h, Nat.div_eq_of_lt, foldBlocks, Nat.mod_eq_of_lt ht]
  · have hmin : min msg.length (A.bs - c.buf.length) = A.bs - c.buf.length := by omega
    obtain ⟨hk, hb⟩ := blocks_append A c.h c.buf msg hlt (by omega)
    simp only [h, ↓reduceIte, hmin, hk, hb]

/-- `GoodHB`, and `tot_len` counts the bytes of the whole blocks, modulo its width -/
def Good2 (A : Algo) (W : Widths) (c : Ctx A) (p : Bytes) : Prop :=
  GoodHB A c p ∧ c.tot = (p.length - c.buf.length) % 2 ^ W.totBits

theorem good2_init (A : Algo) (W : Widths) : Good2 A W (Ctx.init A) [] :=
  ⟨goodHB_init A, (Nat.zero_mod _).symm⟩

theorem good2_update (A : Algo) (W : Widths) (c : Ctx A) (p msg : Bytes) (hg : Good2 A W c p) :
    Good2 A W (update A W c msg) (p ++ msg) := by
  rw [update_eq A W c msg hg.1.1 (hg.2 ▸ Nat.mod_lt _ (Nat.pow_pos (by decide)))]
  refine ⟨hg.1.absorb msg _ rfl rfl, ?_⟩
  have hle := hg.1.le_length
  have hk := Nat.div_mul_le_self (c.buf ++ msg).length A.bs
  simp only [hg.2, Nat.mod_add_mod, List.length_drop, List.length_append] at hk ⊢
  congr 1; omega

theorem beBytes_length (n k : Nat) : (beBytes n k).length = k := by
  induction k with
  | zero => rfl
  | succ k ih => simp [beBytes, ih]

theorem beBytes_small (n k j : Nat) (h : n < 256 ^ k) :
    beBytes n (k + j) = List.replicate j 0 ++ beBytes n k := by
  induction j with
  | zero => rfl
  | succ j ih =>
    rw [← Nat.add_assoc, beBytes, ih, Nat.div_eq_of_lt (Nat.lt_of_lt_of_le h
      (Nat.pow_le_pow_right (by decide) (Nat.le_add_right k j)))]
    rfl

theorem padZeros_unique (A : Algo) (len z : Nat) (hz : z < A.bs) (h : (len + 1 + A.lb + z) % A.bs = 0) :
    padZeros A len = z := by
  unfold padZeros
  have hr := Nat.mod_lt (len + 1 + A.lb) A.bsPos
  rw [Nat.add_mod, Nat.mod_eq_of_lt hz] at h
  -- `r + z` with `r, z < bs` is a multiple of `bs`: it is 0 or `bs`
  by_cases hw : (len + 1 + A.lb) % A.bs + z < A.bs
  · rw [Nat.mod_eq_of_lt hw] at h
    rw [(Nat.eq_zero_of_add_eq_zero h).1, (Nat.eq_zero_of_add_eq_zero h).2]
    exact Nat.mod_self _
  · have hge := Nat.le_of_not_lt hw
    rw [Nat.mod_eq_sub_mod hge, Nat.mod_eq_of_lt (Nat.sub_lt_left_of_lt_add hge (Nat.add_lt_add hr hz))] at h
    rw [Nat.sub_eq_of_eq_add ((Nat.le_antisymm hge (Nat.le_of_sub_eq_zero h)).trans (Nat.add_comm _ _))]
    exact Nat.mod_eq_of_lt hz

/-- the padding as `final` lays it out behind `len` pending bytes, in `nb` blocks with a length field of `fb` bytes -/
theorem pad_eq (A : Algo) (p : Bytes) (n len nb fb : Nat) (hL : p.length = n * A.bs + len)
    (hnb : len + 1 + A.lb ≤ nb * A.bs ∧ nb * A.bs < len + 1 + A.lb + A.bs) (hfb : fb ≤ A.lb)
    (h3 : 8 * p.length < 256 ^ fb) :
    pad A p = p ++ 0x80 :: (List.replicate (nb * A.bs - len - 1 - fb) 0 ++ beBytes (8 * p.length) fb) := by
  have hd : nb * A.bs - (len + 1 + A.lb) + (A.lb - fb) = nb * A.bs - len - 1 - fb := by omega
  -- the zero bytes up to a full-width length field fill the last block
  have hz : padZeros A p.length = nb * A.bs - (len + 1 + A.lb) := by
    apply padZeros_unique A p.length _ (Nat.sub_lt_left_of_lt_add hnb.1 hnb.2)
    rw [hL, Nat.add_assoc (n * A.bs), Nat.add_assoc (n * A.bs), Nat.add_assoc (n * A.bs), Nat.add_sub_of_le hnb.1,
      ← Nat.add_mul]
    exact Nat.mul_mod_left _ _
  have hf := beBytes_small (8 * p.length) fb (A.lb - fb) h3
  rw [Nat.add_sub_of_le hfb] at hf
  rw [pad, hf, ← List.append_assoc (List.replicate _ 0), List.replicate_append_replicate, hz, hd]

/-- `len_b` of `final` when nothing wraps -/
theorem lenb_eq (L tb lb : Nat) (h1 : 8 * L < 2 ^ tb) (h2 : 8 * L < 2 ^ lb) :
    ((L % 2 ^ (max tb 32)) * 8 % 2 ^ (max tb 32)) % 2 ^ lb = 8 * L := by
  have h8 : L * 8 < 2 ^ max tb 32 :=
    Nat.lt_of_lt_of_le (Nat.mul_comm 8 L ▸ h1) (Nat.pow_le_pow_right (by decide) (Nat.le_max_left _ _))
  rw [Nat.mod_eq_of_lt (Nat.lt_of_le_of_lt (Nat.le_mul_of_pos_right L (by decide)) h8), Nat.mod_eq_of_lt h8,
    Nat.mul_comm, Nat.mod_eq_of_lt h2]

/-- the number of blocks `final` hashes last: they end with the length field, less than a block after the `len`
pending bytes -/
theorem final_blocks (bs lb len : Nat) (hlb : 1 + lb ≤ bs) (hlt : len < bs) :
    len + 1 + lb ≤ (if bs - (1 + lb) < len then 2 else 1) * bs ∧
    (if bs - (1 + lb) < len then 2 else 1) * bs < len + 1 + lb + bs := by
  by_cases h : bs - (1 + lb) < len
  · rw [if_pos h]; omega
  · rw [if_neg h]; omega

theorem Good2.tot_add {A : Algo} {W : Widths} {c : Ctx A} {p : Bytes} (hg : Good2 A W c p)
    (h : p.length < 2 ^ W.totBits) : c.tot + c.buf.length = p.length := by
  rw [hg.2, Nat.mod_eq_of_lt (Nat.lt_of_le_of_lt (Nat.sub_le _ _) h), Nat.sub_add_cancel hg.1.le_length]

/-- the last one or two blocks `final` hashes are `pending ++ tail` with `p ++ tail = pad A p` -/
theorem final_spec (A : Algo) (W : Widths) (c : Ctx A) (p : Bytes) (hg : Good2 A W c p)
    (hlb : 1 + A.lb ≤ A.bs) (hfb : W.fieldBytes ≤ A.lb)
    (h1 : 8 * p.length < 2 ^ W.totBits) (h2 : 8 * p.length < 2 ^ W.lenbBits)
    (h3 : 8 * p.length < 256 ^ W.fieldBytes) :
    final A W c = hash A p := by
  have hlt := hg.1.1
  obtain ⟨n, hL⟩ : ∃ n, p.length = n * A.bs + c.buf.length := by
    obtain ⟨_, bp, n, hp, hbp, _⟩ := hg.1
    exact ⟨n, by rw [hp, List.length_append, hbp]⟩
  have hnb := final_blocks A.bs A.lb c.buf.length hlb hlt
  unfold final
  simp only [hg.tot_add (Nat.lt_of_le_of_lt (Nat.le_mul_of_pos_left _ (by decide)) h1), lenb_eq p.length _ _ h1 h2,
    Nat.mod_eq_of_lt hlt]
  generalize (if A.bs - (1 + A.lb) < c.buf.length then 2 else 1) = nb at hnb ⊢
  refine (pad_eq A p n _ nb _ hL hnb hfb h3 ▸ hg.1.absorb_blocks _ nb ?_ 0).out_eq_hash
  simp only [List.length_append, List.length_cons, List.length_replicate, beBytes_length]
  omega

theorem update1_eq (A : Algo) (c : Ctx A) (msg : Bytes) (hlt : c.buf.length < A.bs) :
    update1 A c msg =
      ⟨foldBlocks A c.h (c.buf ++ msg) ((c.buf ++ msg).length / A.bs),
       (c.buf ++ msg).drop ((c.buf ++ msg).length / A.bs * A.bs), (c.tot + msg.length) % 2 ^ 61⟩ := by
  unfold update1
  by_cases h : c.buf.length + msg.length > A.bs - 1
  · obtain ⟨hk, hb⟩ := blocks_append A c.h c.buf msg hlt (by omega)
    simp only [h, ↓reduceIte, hk, hb]
  · have h' : c.buf.length + msg.length < A.bs := by omega
    simp [h, Nat.div_eq_of_lt, h', foldBlocks]

theorem goodHB_update1 (A : Algo) (c : Ctx A) (p msg : Bytes) (hg : GoodHB A c p) :
    GoodHB A (update1 A c msg) (p ++ msg) := by
  rw [update1_eq A c msg hg.1]
  exact hg.absorb msg _ rfl rfl

theorem goodHB_foldl (A : Algo) (segs : List Bytes) (c : Ctx A) (p : Bytes) (hg : GoodHB A c p) :
    GoodHB A (segs.foldl (update1 A) c) (p ++ segs.flatten) :=
  foldl_flatten_inv (goodHB_update1 A) segs c p hg

/-- `count` is a 64-bit counter of bits: the number of bytes modulo 2^61 -/
def Good1 (A : Algo) (c : Ctx A) (p : Bytes) : Prop := GoodHB A c p ∧ c.tot = p.length % 2 ^ 61

theorem good1_update1 (A : Algo) (c : Ctx A) (p msg : Bytes) (hg : Good1 A c p) : Good1 A (update1 A c msg) (p ++ msg) := by
  refine ⟨goodHB_update1 A c p msg hg.1, ?_⟩
  rw [update1_eq A c msg hg.1.1]
  show (c.tot + msg.length) % 2 ^ 61 = _
  rw [hg.2, List.length_append, Nat.mod_add_mod]

theorem good1_init (A : Algo) : Good1 A (Ctx.init A) [] := ⟨goodHB_init A, rfl⟩

theorem GoodHB.buf_length {A : Algo} {c : Ctx A} {p : Bytes} (hg : GoodHB A c p) : c.buf.length = p.length % A.bs := by
  obtain ⟨hlt, bp, n, rfl, hbp, _⟩ := hg
  rw [List.length_append, hbp, Nat.add_comm, Nat.add_mul_mod_self_right, Nat.mod_eq_of_lt hlt]

/-- the zero-padding loop of `SHA1_Final` feeds the `z` zero bytes after which `bs - lb` bytes are pending -/
theorem pad1Loop_spec (A : Algo) : ∀ (fuel : Nat) (c : Ctx A) (p : Bytes) (z : Nat), GoodHB A c p → z ≤ fuel → z < A.bs →
    (p.length + z) % A.bs = A.bs - A.lb → GoodHB A (pad1Loop A fuel c) (p ++ List.replicate z 0)
  | 0, c, p, z, hg, hf, _, _ => by
    rw [Nat.le_zero.1 hf]; simpa [pad1Loop] using hg
  | fuel + 1, c, p, z, hg, hf, hz, hm => by
    unfold pad1Loop
    rw [hg.buf_length, Nat.mod_mod]
    by_cases h : p.length % A.bs = A.bs - A.lb
    · -- no zero is fed, and none is wanted: `z` is below the block size and a multiple of it
      have := Nat.sub_mod_eq_zero_of_mod_eq (hm.trans h.symm)
      rw [Nat.add_sub_cancel_left, Nat.mod_eq_of_lt hz] at this
      rw [if_pos h, this]; simpa using hg
    · rw [if_neg h]
      cases z with
      | zero => exact absurd hm h
      | succ z =>
        have ih := pad1Loop_spec A fuel (update1 A c [0]) (p ++ [0]) z (goodHB_update1 A c p [0] hg) (by omega) (by omega)
          (by rw [← hm, List.length_append]; congr 1; simp only [List.length_cons, List.length_nil]; omega)
        simpa [List.replicate_succ, List.append_assoc] using ih

/-- the three stages of `SHA1_Final` feed exactly what `pad` appends; the block of 64 bytes and the length field of 8 are
constants in its code -/
theorem final1_spec (A : Algo) (hbs : A.bs = 64) (hlb : A.lb = 8) (c : Ctx A) (p : Bytes) (hg : Good1 A c p)
    (hlen : p.length < 2 ^ 61) : final1 A c = hash A p := by
  have htot : c.tot = p.length := by rw [hg.2]; exact Nat.mod_eq_of_lt hlen
  have hz : padZeros A p.length < A.bs := Nat.mod_lt _ A.bsPos
  have g2 := pad1Loop_spec A A.bs _ _ (padZeros A p.length) (goodHB_update1 A c p [0x80] hg.1) (Nat.le_of_lt hz) hz (by
    unfold padZeros
    rw [hbs, hlb, List.length_append, List.length_cons, List.length_nil]
    omega)
  have g3 := goodHB_update1 A _ _ (beBytes (8 * p.length) 8) g2
  have hpad : p ++ [0x80] ++ List.replicate (padZeros A p.length) 0 ++ beBytes (8 * p.length) 8 = pad A p := by
    rw [pad, hlb, List.append_assoc, List.append_assoc]; rfl
  rw [hpad] at g3
  rw [final1, htot]
  exact g3.out_eq_hash

theorem length_flatMap_const {α β : Type} (f : α → List β) (k : Nat) (hf : ∀ x, (f x).length = k) :
    ∀ l : List α, (l.flatMap f).length = k * l.length
  | [] => rfl
  | x :: xs => by rw [List.flatMap_cons, List.length_append, hf, length_flatMap_const f k hf xs, List.length_cons, Nat.mul_succ, Nat.add_comm]

/-- a hash whose state is `w` words, each serialised in `k` bytes, has digests of `k * w` bytes -/
theorem hash_words_length {W : Type} (bs lb : Nat) (iv : Array W) (comp : Array W → Bytes → Array W) (unpack : W → Bytes)
    (bsPos : 0 < bs) (w k : Nat) (hiv : iv.size = w) (hc : ∀ s b, (comp s b).size = w) (hu : ∀ x, (unpack x).length = k)
    (m : Bytes) : (hash ⟨bs, lb, Array W, iv, comp, fun h => h.toList.flatMap unpack, bsPos⟩ m).length = k * w := by
  have inv : ∀ (n : Nat) (s : Array W) (bytes : Bytes), s.size = w →
      (foldBlocks ⟨bs, lb, Array W, iv, comp, fun h => h.toList.flatMap unpack, bsPos⟩ s bytes n).size = w := by
    intro n
    induction n with
    | zero => exact fun _ _ h => h
    | succ n ih => exact fun s _ _ => ih _ _ (hc s _)
  show (Array.toList _ |>.flatMap unpack).length = k * w
  rw [length_flatMap_const _ k hu, Array.length_toList, inv _ _ _ hiv]

theorem hash256_len (m : Bytes) : (hash sha256A m).length = 32 :=
  hash_words_length 64 8 iv256.toArray comp256 unpack32 (by decide) 8 4 (by decide)
    (fun _ _ => by unfold comp256; simp only [Id.run, bind, pure]; rfl) (fun _ => rfl) m

theorem hash512_len (m : Bytes) : (hash sha512A m).length = 64 :=
  hash_words_length 128 16 iv512.toArray comp512 unpack64 (by decide) 8 8 (by decide)
    (fun _ _ => by unfold comp512; simp only [Id.run, bind, pure]; rfl) (fun _ => rfl) m

theorem hash1_len (m : Bytes) : (hash sha1A m).length = 20 :=
  hash_words_length 64 8 iv1.toArray comp1 unpack32 (by decide) 5 4 (by decide)
    (fun _ _ => by unfold comp1; simp only [Id.run, bind, pure]; rfl) (fun _ => rfl) m

end Zck.Sha
