-- every module of the library (models, predicates, lemmas, property theorems)
import ZckModel.Base
import ZckModel.BytesLemmas
import ZckModel.Gen.Consts
import ZckModel.Proto
import ZckModel.Compint
import ZckModel.Pred.C20
import ZckModel.CompintLemmas
import ZckModel.Props.C20
import ZckModel.Range
import ZckModel.Pred.C10
import ZckModel.RangeLemmas
import ZckModel.Props.C10
import ZckModel.Sha.Spec
import ZckModel.Sha.Bundled
import ZckModel.Sha.Lemmas
import ZckModel.Pred.C18
import ZckModel.Props.C18
import ZckModel.Format
import ZckModel.Header
import ZckModel.HeaderLemmas
import ZckModel.Pin
import ZckModel.Pred.Hdr
import ZckModel.Props.C06
import ZckModel.Props.C07
import ZckModel.Props.C13
import ZckModel.Props.C13Parse
import ZckModel.Reader
import ZckModel.ReaderStep
import ZckModel.ReaderScan
import ZckModel.Pred.Read
import ZckModel.Props.C02
import ZckModel.Props.C02Stream
import ZckModel.Props.C02Decode
import ZckModel.Props.C01Stream
import ZckModel.Props.C02Full
import ZckModel.Props.C02Hash
import ZckModel.Encode
import ZckModel.Props.C01Encode
import ZckModel.Props.C01Written
import ZckModel.Props.C01Close
import ZckModel.Props.C09Reads
import ZckModel.Props.C09After
import ZckModel.Props.C14Exact
import ZckModel.Props.C09
import ZckModel.Props.C14
import ZckModel.Props.C15
import ZckModel.Writer
import ZckModel.WriterLemmas
import ZckModel.Tools
import ZckModel.Pred.Write
import ZckModel.Props.C01
import ZckModel.Props.C16
import ZckModel.Props.C16Term
import ZckModel.Props.C01Scanner
import ZckModel.Props.C01Tool
import ZckModel.Props.C03
import ZckModel.Copy
import ZckModel.CopyLemmas
import ZckModel.Pred.Copy
import ZckModel.Props.C08
import ZckModel.IoFault
import ZckModel.Props.C12
import ZckModel.Threads
import ZckModel.Props.C19
import ZckModel.Dl
import ZckModel.Pred.Dl
import ZckModel.DlLemmas
import ZckModel.Props.C05
import ZckModel.Props.C17
import ZckModel.Update
import ZckModel.Pred.Update
import ZckModel.Props.C04
import ZckModel.Props.C11
import ZckModel.Props.C05Frag
import ZckModel.Props.C05Complete
import ZckModel.Props.C05Multipart
import ZckModel.Props.C05MpComplete
import ZckModel.Props.C04Groups
import ZckModel.Props.C04Text
import ZckModel.Props.C04Complete
import ZckModel.Props.C04Sound
import ZckModel.Props.Run
import ZckModel.Props.C09Marks
import ZckModel.Props.C04Req
