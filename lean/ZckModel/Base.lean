/-
Base definitions shared by every model: bytes, bounds-checked memory, result type.
Core Lean only (no Mathlib), so that the driver links as a native executable.
-/
namespace Zck

abbrev Bytes := List UInt8

/-- Result of a modelled C function.  `oob` is an out-of-bounds read of a C buffer at the
given index (the model never hides it behind a default value); `err` is the C function's
ordinary failure return. -/
inductive Res (α : Type) where
  | ok (a : α)
  | err
  | oob (i : Nat)
deriving Repr, DecidableEq

namespace Res
def isOob {α} : Res α → Bool
  | .oob _ => true
  | _ => false

/-- sequencing of modelled C calls: the first failure (error return or out-of-bounds read) ends the function -/
def bind {α β} (x : Res α) (f : α → Res β) : Res β :=
  match x with
  | .ok a => f a
  | .err => .err
  | .oob i => .oob i

instance : Monad Res where
  pure := .ok
  bind := Res.bind

/-- the modelled function performed no out-of-bounds read -/
def NoOob {α} (r : Res α) : Prop := ∀ i, r ≠ .oob i

theorem noOob_ok {α} (a : α) : NoOob (Res.ok a) := fun _ h => by cases h
theorem noOob_err {α} : NoOob (Res.err : Res α) := fun _ h => by cases h
theorem noOob_ok_iff {α} (a : α) : NoOob (Res.ok a) ↔ True := iff_true_intro (noOob_ok a)
theorem noOob_err_iff {α} : NoOob (Res.err : Res α) ↔ True := iff_true_intro noOob_err

@[simp] theorem bind_ok {α β} (a : α) (f : α → Res β) : (Res.ok a >>= f) = f a := rfl
@[simp] theorem bind_err {α β} (f : α → Res β) : ((Res.err : Res α) >>= f) = .err := rfl
@[simp] theorem bind_oob {α β} (i : Nat) (f : α → Res β) : ((Res.oob i : Res α) >>= f) = .oob i := rfl
@[simp] theorem pure_eq {α} (a : α) : (pure a : Res α) = .ok a := rfl

theorem bind_eq_ok {α β} (x : Res α) (f : α → Res β) (b : β) :
    (x >>= f) = .ok b ↔ ∃ a, x = .ok a ∧ f a = .ok b := by
  cases x with
  | ok a => simp
  | err => simp
  | oob j => simp

theorem noOob_bind_iff {α β} (x : Res α) (f : α → Res β) :
    NoOob (x >>= f) ↔ NoOob x ∧ ∀ a, x = .ok a → NoOob (f a) := by
  cases x with
  | ok a => simp [noOob_ok]
  | err => simp [noOob_err]
  | oob j => simp [NoOob]
end Res

def two64 : Nat := 18446744073709551616
@[simp] theorem two64_eq : two64 = 2^64 := by decide

end Zck
