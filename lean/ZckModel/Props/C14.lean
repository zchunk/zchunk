/-
C14 — Random access returns each chunk's exact data regardless of request history.
What is proved about the model of `zck_get_chunk_data` / `zck_get_chunk_comp_data`: every request
re-establishes the reader position state from scratch, so its outcome does not depend on any of
the fields previous requests (or reads) leave behind — the offset, the pending stored bytes, the
position inside the previous chunk, the current chunk, the end-of-data marker, the decoded
buffer, the chunk checksum context.  That the bytes returned are the chunk's content is
`Props/C14Exact.lean` (`chunk_data_exact`, on a well-formed file); on the implementation it is
evaluated against the reference decoder, `c14_ok`.
-/
import ZckModel.Reader

namespace Zck.C14
open Zck.Format Zck.Reader

/-- forget everything a previous request may have left in the reader position state -/
def forget (c : Ctx) : Ctx :=
  { c with pos := 0, started := true, data := [], dataLoc := 0, dataIdx := none, dataEof := false,
           dc := [], chunkHash := none }

/-- the dictionary is loaded, or the file has none -/
def DictReady (c : Ctx) : Prop :=
  ∀ d, c.hdr.chunks.head? = some d → ¬ (d.len > 0 ∧ c.dict.isNone = true)

/-- the result and the context after a chunk-data request are those of the request on `forget c`, except that a request that
returns early leaves the context as it is -/
theorem getChunkData_history_free (H : HashFn) (D : Decomp) (f : Bytes) (c : Ctx) (k n : Nat)
    (hd : DictReady c) :
    getChunkData H D f c k n =
      (match getChunkData H D f (forget c) k n with
       | (r, c') => (r, if c.err ∨ (chunkAt c k).isNone ∨ c.hdr.chunks.head?.isNone ∨ ((chunkAt c k).map (·.len)) = some 0
                        then c else c')) := by
  -- the request on `forget c` tests the same fields: the error state, the index and the dictionary are not forgotten
  have e1 : (forget c).err = c.err := rfl
  have e2 : chunkAt (forget c) k = chunkAt c k := rfl
  have e3 : (forget c).hdr = c.hdr := rfl
  have e4 : (forget c).dict = c.dict := rfl
  unfold getChunkData
  rw [e1, e2, e3, e4]
  by_cases he : c.err = true
  · simp [he]
  cases hk : chunkAt c k with
  | none => simp [he]
  | some ch =>
    cases hh : c.hdr.chunks.head? with
    | none => simp [he]
    | some d =>
      have hnd := hd d hh
      have hnd2 : ¬ (d.len > 0 ∧ c.dict.isNone = true ∧ d.len ≥ allocLimit) := fun h => hnd ⟨h.1, h.2.1⟩
      by_cases hl : ch.len = 0
      · simp [he, hl]
      · simp only [e1, he, hl, hnd, hnd2, ↓reduceIte, Bool.false_eq_true, Option.isNone_some, Option.map_some, Option.some.injEq, or_self]
        rfl

theorem getChunkCompData_history_free (f : Bytes) (c : Ctx) (k n : Nat) :
    (getChunkCompData f c k n).1 = (getChunkCompData f (forget c) k n).1 := by
  unfold getChunkCompData
  have hf : (forget c).err = c.err := rfl
  have hk : chunkAt (forget c) k = chunkAt c k := rfl
  have ho : dataOff (forget c) = dataOff c := rfl
  rw [hf, hk, ho]
  by_cases he : c.err = true
  · rw [if_pos he, if_pos he]
  rw [if_neg he, if_neg he]
  cases chunkAt c k with
  | none => rfl
  | some ch => by_cases hl : ch.len = 0 <;> simp only [hl, ↓reduceIte]

theorem getChunkCompData_bytes (f : Bytes) (c : Ctx) (k n : Nat) (ch : Chunk)
    (he : c.err = false) (hk : chunkAt c k = some ch) (hl : ch.len ≠ 0) :
    (getChunkCompData f c k n).1.bytes = (f.drop (dataOff c + ch.start)).take n := by
  unfold getChunkCompData
  simp [he, hk, hl, fileRead]

end Zck.C14
