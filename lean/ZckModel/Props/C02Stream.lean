/-
C02 / C01 — the streaming reader, end to end (`comp_read` called any number of times with any buffer sizes, `import_dict`,
`zck_close`), for an arbitrary file, codec and hash function.  The one hypothesis on the header, `C13.RunFrom 0 0 h.chunks` (start
offsets are running sums), holds of every header the parser accepts (`C13.open_sound`), so it restricts no file.

`stream_sound`: if every read of a sequence reports success, the last one comes up short (end of stream), then the bytes
handed out are exactly the concatenation, in index order, of the contents of the data chunks, every chunk of the index was
consumed exactly once from its own extent of the file, its stored bytes hash to its index checksum and decode (with the
dictionary the format prescribes) to exactly its declared length; and if `zck_close` succeeds too, the whole data section is
present and hashes to the data checksum of the header.  `Props/C02Decode.lean` restates this against the independent
reference decoder `Format.decodeAny`.

The proof is one invariant (`SI`) of the loop of `comp_read`, kept by every iteration (`step_SI`), hence by every call and
every sequence of calls: where the reader is in the index, that every byte consumed so far was really in the file, what the
two running checksums have been fed, and the accounting equation "skipped ++ delivered ++ buffered = contents of the chunks
finished so far (++ what was read of the current one, for stored chunks)".
-/
import ZckModel.ReaderStep
import ZckModel.Props.Run

namespace Zck.Stream
open Zck.Format Zck.Reader
open Zck.C13 (run_start run_next run_last)

theorem fileRead_full_add (f : Bytes) (p a b : Nat) (h1 : (fileRead f p a).length = a)
    (h2 : (fileRead f (p + a) b).length = b) : (fileRead f p (a + b)).length = a + b := by
  rw [fileRead_add, List.length_append, h1, h2]

section
variable (H : HashFn) (D : Decomp) (f : Bytes) (h : Hdr)

/-- offset of the data section -/
def dOff : Nat := h.lead + h.headerLen

/-- the stored bytes of a chunk as they are on disk (short when the file ends early) -/
def stored (ch : Chunk) : Bytes := fileRead f (dOff h + ch.start) ch.compLen

/-- decoded content of a chunk under dictionary `dict` -/
def plainOf (dict : Option Bytes) (ch : Chunk) : Bytes :=
  if h.compType = 0 then stored f h ch else (D (stored f h ch) dict).getD []

/-- the stored bytes hash to the index checksum (all zeros for a chunk without stored bytes) -/
def SumOk (ch : Chunk) : Prop :=
  ∃ d, H h.chunkHashType (stored f h ch) = some d ∧ (if ch.compLen = 0 then zeros d.length else d) = ch.digest

/-- a chunk is all there, verifies and decodes to exactly its declared length -/
def ChunkGood (dict : Option Bytes) (ch : Chunk) : Prop :=
  (stored f h ch).length = ch.compLen ∧ SumOk H f h ch ∧
  (if h.compType = 0 then ch.compLen = ch.len
   else ∃ p, D (stored f h ch) dict = some p ∧ p.length = ch.len)

/-- the dictionary for the data chunks: the content of the first index entry unless it is empty -/
def dictMain : Option Bytes :=
  match h.chunks.head? with
  | some d => if d.len = 0 then none else some (plainOf D f h none d)
  | none => none

/-- the dictionary entry `j` is decoded with: none for the first entry (it is the dictionary), `dictMain` for all others -/
def dictFor (j : Nat) : Option Bytes := if j = 0 then none else dictMain D f h

/-- the first index entry when it is the empty dictionary: the reader passes over it -/
def Skipped (j : Nat) (ch : Chunk) : Prop := j = 0 ∧ ch.compLen = 0 ∧ ch.len = 0

instance (j : Nat) (ch : Chunk) : Decidable (Skipped j ch) := by unfold Skipped; exact inferInstance

/-- what chunk number `j` contributes to the stream -/
def contrib (j : Nat) (ch : Chunk) : Bytes :=
  if Skipped j ch then [] else plainOf D f h (dictFor D f h j) ch

/-- what reading past entry `j` establishes about it: it is the passed-over empty dictionary entry, or it is good -/
def Need (j : Nat) (ch : Chunk) : Prop := Skipped j ch ∨ ChunkGood H D f h (dictFor D f h j) ch

/-- contents of the entries `cs`, numbered from `j`, in order -/
def doneFrom : Nat → List Chunk → Bytes
  | _, [] => []
  | j, c :: cs => contrib D f h j c ++ doneFrom (j + 1) cs

/-- contents of the first `k` chunks -/
def done (k : Nat) : Bytes := doneFrom D f h 0 (h.chunks.take k)

/-- the first `k` entries have been read past -/
def AllNeed (k : Nat) : Prop := ∀ j ch, j < k → h.chunks[j]? = some ch → Need H D f h j ch

theorem doneFrom_append (j : Nat) (a b : List Chunk) :
    doneFrom D f h j (a ++ b) = doneFrom D f h j a ++ doneFrom D f h (j + a.length) b := by
  induction a generalizing j with
  | nil => simp [doneFrom]
  | cons x xs ih =>
    simp only [List.cons_append, doneFrom, ih, List.length_cons, List.append_assoc]
    rw [show j + 1 + xs.length = j + (xs.length + 1) by omega]

theorem done_zero : done D f h 0 = [] := by simp [done, doneFrom]

theorem done_succ (k : Nat) (ch : Chunk) (hk : h.chunks[k]? = some ch) :
    done D f h (k + 1) = done D f h k ++ contrib D f h k ch := by
  unfold done
  have : h.chunks.take (k + 1) = h.chunks.take k ++ [ch] := by
    rw [List.take_add_one, hk]; rfl
  rw [this, doneFrom_append]
  simp [doneFrom, List.length_take, Nat.min_eq_left (Nat.le_of_lt (lt_length_of_getElem? hk))]

theorem done_all (k : Nat) (hk : h.chunks.length ≤ k) : done D f h k = done D f h h.chunks.length := by
  unfold done; rw [List.take_of_length_le hk, List.take_length]

theorem allNeed_succ (k : Nat) (ch : Chunk) (hk : h.chunks[k]? = some ch) (ha : AllNeed H D f h k)
    (hn : Need H D f h k ch) : AllNeed H D f h (k + 1) := by
  intro j c hj hc
  rcases Nat.lt_or_ge j k with hl | hl
  · exact ha j c hl hc
  · have : j = k := by omega
    subst this
    rw [hk] at hc; cases hc; exact hn

variable {H D f h} in
theorem ChunkGood.plain {dict : Option Bytes} {ch : Chunk} (g : ChunkGood H D f h dict ch) :
    (plainOf D f h dict ch).length = ch.len ∧
    (if h.compType = 0 then some (stored f h ch) else D (stored f h ch) dict) = some (plainOf D f h dict ch) := by
  obtain ⟨hl, _, hc⟩ := g
  unfold plainOf
  by_cases hz : h.compType = 0
  · rw [if_pos hz] at hc ⊢
    exact ⟨hl.trans hc, if_pos hz⟩
  · rw [if_neg hz] at hc ⊢
    obtain ⟨p, hD, hp⟩ := hc
    rw [if_neg hz, hD]
    exact ⟨hp, rfl⟩

variable {H D f h} in
theorem ChunkGood.contrib_eq {j : Nat} {ch : Chunk} (g : ChunkGood H D f h (dictFor D f h j) ch) :
    contrib D f h j ch = plainOf D f h (dictFor D f h j) ch := by
  unfold contrib
  split
  · rename_i hs
    exact (List.eq_nil_of_length_eq_zero (g.plain.1.trans hs.2.2)).symm
  · rfl

variable {H D f h} in
theorem contrib_len_of_need (j : Nat) (ch : Chunk) (hn : Need H D f h j ch) : (contrib D f h j ch).length = ch.len := by
  rcases hn with hs | g
  · unfold contrib; rw [if_pos hs, hs.2.2]; rfl
  · rw [g.contrib_eq]; exact g.plain.1

/-- the uncompressed-source flag (bit 2 of the header flags): the whole-data checksum is not kept -/
def f4 : Bool := decide (h.flags / 4 % 2 = 1)

/-- length of the data section according to the index -/
def total : Nat := C13.sumLen h.chunks

/-- clauses common to every state of the invariant -/
structure Base (dv : Option Bytes) (c : Ctx) : Prop where
  hdr : c.hdr = h
  noerr : c.err = false
  started : c.started = true
  dict : c.dict = dv

/-- nothing consumed yet -/
structure Start (ud : Bool) (dv : Option Bytes) (sk T : Bytes) (c : Ctx) : Prop where
  base : Base h dv c
  eof : c.dataEof = false
  idx : c.dataIdx = none
  data : c.data = []
  dc : c.dc = []
  loc : c.dataLoc = 0
  pos : c.pos = dOff h
  fhash : f4 h = true ∨ c.fullHash = some []
  sk0 : sk = []
  t0 : T = []
  dictOk : ud = true → h.compType ≠ 0 → dv = dictMain D f h ∧ dictMain D f h = none

/-- inside chunk `k` (= `ch`), `c.dataLoc` of its stored bytes consumed; the parameters are those of `SI` -/
structure Mid (tr : Bool) (ud : Bool) (n : Nat) (dv : Option Bytes) (sk T : Bytes) (c : Ctx) (k : Nat) (ch : Chunk) : Prop where
  base : Base h dv c
  eof : c.dataEof = false
  idx : c.dataIdx = some k
  chk : h.chunks[k]? = some ch
  loc : c.dataLoc ≤ ch.compLen
  pres : (fileRead f (dOff h) (ch.start + c.dataLoc)).length = ch.start + c.dataLoc
  pos : c.pos = dOff h + ch.start + c.dataLoc
  chash : c.chunkHash = some (fileRead f (dOff h + ch.start) c.dataLoc)
  fhash : f4 h = true ∨ (if tr then c.fullHash = some (fileRead f (dOff h) (ch.start + c.dataLoc)) else c.fullHash.isSome = true)
  dataZ : h.compType ≠ 0 → c.data = fileRead f (dOff h + ch.start) c.dataLoc
  acct : sk ++ T ++ c.dc ++ (if h.compType = 0 then c.data else []) =
         done D f h k ++ (if h.compType = 0 then fileRead f (dOff h + ch.start) c.dataLoc else [])
  needs : AllNeed H D f h k
  dictOk : ud = true → h.compType ≠ 0 → dv = dictMain D f h ∧ (k = 0 → dictMain D f h = none)
  -- the dictionary import is still in the first entry, or has just finished it (unit-decoded) and holds all it was asked for
  pa : ud = false → k = 0 ∨ (k = 1 ∧ h.compType ≠ 0 ∧ n ≤ T.length + c.dc.length)
  nsk : ¬ Skipped k ch

/-- every chunk consumed and verified -/
structure Fin (tr : Bool) (ud : Bool) (dv : Option Bytes) (sk T : Bytes) (c : Ctx) : Prop where
  base : Base h dv c
  eof : c.dataEof = true
  pres : (fileRead f (dOff h) (total h)).length = total h
  fhash : f4 h = true ∨ (if tr then c.fullHash = some (fileRead f (dOff h) (total h)) else c.fullHash.isSome = true)
  acct : sk ++ T ++ c.dc = done D f h h.chunks.length
  needs : AllNeed H D f h h.chunks.length
  -- the dictionary import gets here only when the dictionary is the only entry
  pa : ud = false → h.chunks.length = 1

/-- the invariant of the loop of `comp_read`: nothing consumed yet, inside entry `k`, or at the end of the stream.
`ud`, `n` = `use_dict` and the request size of the call under way (`ud = false` is the dictionary import, whose clauses `pa`
need `n`); `dv` = the dictionary installed; `sk` = bytes taken out of the stream before (the dictionary), `T` = bytes handed to
the caller so far; `tr` = the running data checksum is known exactly (`false`: only that it has a context, which is all a
chunk-data request can say, `Props/C14Exact.lean`) -/
inductive SI (tr : Bool) (ud : Bool) (n : Nat) (dv : Option Bytes) (sk T : Bytes) (c : Ctx) : Prop where
  | start : Start D f h ud dv sk T c → SI tr ud n dv sk T c
  | mid (k : Nat) (ch : Chunk) : Mid H D f h tr ud n dv sk T c k ch → SI tr ud n dv sk T c
  | fin : Fin H D f h tr ud dv sk T c → SI tr ud n dv sk T c

variable {H D f h}

theorem done_split (k : Nat) (hk : k ≤ h.chunks.length) :
    done D f h h.chunks.length = done D f h k ++ doneFrom D f h k (h.chunks.drop k) := by
  unfold done
  rw [List.take_length]
  have := doneFrom_append D f h 0 (h.chunks.take k) (h.chunks.drop k)
  rw [List.take_append_drop, List.length_take, Nat.min_eq_left hk, Nat.zero_add] at this
  exact this

theorem done_prefix (k : Nat) (hk : k ≤ h.chunks.length) : done D f h k <+: done D f h h.chunks.length :=
  ⟨_, (done_split k hk).symm⟩

theorem SI.base {ud n dv sk T c} (s : SI H D f h tr ud n dv sk T c) : Base h dv c := by
  cases s with
  | start s => exact s.base
  | mid k ch s => exact s.base
  | fin s => exact s.base

theorem flag4_eq {c : Ctx} (hc : c.hdr = h) : flag4 c = f4 h := by simp [flag4, f4, hc]

theorem dataOff_eq {c : Ctx} (hc : c.hdr = h) : dataOff c = dOff h := by simp [dataOff, dOff, hc]

/-- the common clauses speak of four fields of the context only -/
theorem Base.of {dv : Option Bytes} {c c' : Ctx} (b : Base h dv c) (h1 : c'.hdr = c.hdr := by rfl) (h2 : c'.err = c.err := by rfl)
    (h3 : c'.started = c.started := by rfl) (h4 : c'.dict = c.dict := by rfl) : Base h dv c' :=
  ⟨h1 ▸ b.hdr, h2 ▸ b.noerr, h3 ▸ b.started, h4 ▸ b.dict⟩

theorem SI.handout {ud n dv sk T c} (m : Nat) (s : SI H D f h tr ud n dv sk T c) :
    SI H D f h tr ud n dv sk (T ++ c.dc.take m) { c with dc := c.dc.drop m } := by
  have key : ∀ X : Bytes, sk ++ (T ++ c.dc.take m) ++ c.dc.drop m ++ X = sk ++ T ++ c.dc ++ X := by
    intro X
    simp only [List.append_assoc]
    rw [← List.append_assoc (c.dc.take m), List.take_append_drop]
  cases s with
  | start s => exact .start { s with base := s.base.of, dc := by simp [s.dc], t0 := by simp [s.t0, s.dc] }
  | mid k ch s =>
    refine .mid k ch { s with base := s.base.of, acct := (key _).trans s.acct, pa := fun hu => ?_ }
    rcases s.pa hu with h0 | ⟨h1, h2, h3⟩
    · exact Or.inl h0
    · refine Or.inr ⟨h1, h2, ?_⟩
      show n ≤ (T ++ c.dc.take m).length + (c.dc.drop m).length
      simp only [List.length_append, List.length_take, List.length_drop]
      omega
  | fin s =>
    refine .fin { s with base := s.base.of, acct := ?_ }
    have := key []
    simp only [List.append_nil] at this
    exact this.trans s.acct

theorem Mid.moveData {ud n dv sk T c k ch} (s : Mid H D f h tr ud n dv sk T c k ch) (hz : h.compType = 0) :
    Mid H D f h tr ud n dv sk T { c with dc := c.dc ++ c.data, data := [] } k ch :=
  { s with
    base := s.base.of
    dataZ := fun hne => absurd hz hne
    acct := by
      have := s.acct
      simp only [hz, ↓reduceIte] at this ⊢
      simp only [List.append_nil, ← List.append_assoc] at this ⊢
      exact this
    pa := fun hu => (s.pa hu).imp_right fun h1 => absurd hz h1.2.1 }

/-- what the loop hypotheses say while the dictionary is being imported (`use_dict = 0`): nothing delivered before this
call, nothing skipped, and the call asks for exactly the declared length of the first index entry -/
def PA (ud : Bool) (n : Nat) (sk Tp : Bytes) : Prop :=
  ud = false → Tp = [] ∧ sk = [] ∧ ∃ d, h.chunks.head? = some d ∧ d.len = n

/-- `Mid` at the start of entry `k`: nothing of it consumed, nothing pending, the chunk checksum context fresh -/
theorem Mid.enter {ud n dv sk T c k ch} (b : Base h dv c) (heof : c.dataEof = false) (hidx : c.dataIdx = some k)
    (hch : h.chunks[k]? = some ch) (hloc : c.dataLoc = 0) (hpres : (fileRead f (dOff h) ch.start).length = ch.start)
    (hpos : c.pos = dOff h + ch.start) (hhash : c.chunkHash = some [])
    (hfh : f4 h = true ∨ (if tr then c.fullHash = some (fileRead f (dOff h) ch.start) else c.fullHash.isSome = true))
    (hdata : c.data = []) (hacct : sk ++ T ++ c.dc = done D f h k) (hneeds : AllNeed H D f h k)
    (hdict : ud = true → h.compType ≠ 0 → dv = dictMain D f h ∧ (k = 0 → dictMain D f h = none))
    (hpa : ud = false → k = 0 ∨ (k = 1 ∧ h.compType ≠ 0 ∧ n ≤ T.length + c.dc.length)) (hnsk : ¬ Skipped k ch) :
    Mid H D f h tr ud n dv sk T c k ch := by
  refine ⟨b, heof, hidx, hch, hloc ▸ Nat.zero_le _, ?_, ?_, ?_, ?_, fun _ => ?_, ?_, hneeds, hdict, hpa, hnsk⟩ <;> rw [hloc]
  · exact hpres
  · exact hpos
  · rw [fileRead_zero]; exact hhash
  · exact hfh
  · rw [fileRead_zero]; exact hdata
  · rw [fileRead_zero, hdata, hacct]

/-- start of the stream: the reader moves to the first index entry, or the second when the first is an empty dictionary -/
theorem Start.first {ud n dv sk T c} (s : Start D f h ud dv sk T c) (hr : C13.RunFrom 0 0 h.chunks) (hn : 0 < n)
    (hpa : ud = false → ∃ d, h.chunks.head? = some d ∧ d.len = n)
    (i : Nat) (hi : firstIdx h = some i) :
    ∃ ch, Mid H D f h tr ud n dv sk T { c with dataIdx := some i, chunkHash := some [] } i ch := by
  obtain ⟨d, hd, hcase⟩ := firstIdx_eq_some hi
  have h0 := List.head?_eq_getElem? ▸ hd
  -- entry `i` starts at offset 0, and whatever lies before it is the empty dictionary entry
  obtain ⟨ch, hch, hst, hnsk, hbefore, hdict⟩ : ∃ ch, h.chunks[i]? = some ch ∧ ch.start = 0 ∧ ¬ Skipped i ch ∧
      (∀ j cj, j < i → h.chunks[j]? = some cj → Skipped j cj) ∧ (i ≠ 0 → d.len = 0) := by
    have hs0 : d.start = 0 := by simpa [C13.sumLen] using run_start hr h0
    rcases hcase with ⟨rfl, hns⟩ | ⟨rfl, hc0, hl0, hl⟩
    · exact ⟨d, h0, hs0, fun hs => hns ⟨hs.2.1, hs.2.2⟩, fun j _ hj => by omega, fun hne => absurd rfl hne⟩
    · have h1 : h.chunks[1]? = some h.chunks[1] := List.getElem?_eq_getElem hl
      refine ⟨_, h1, by have := run_next hr 0 d _ h0 h1; omega, fun hs => by have := hs.1; omega, fun j cj hj hcj => ?_, fun _ => hl0⟩
      obtain rfl : j = 0 := by omega
      rw [h0] at hcj; cases hcj
      exact ⟨rfl, hc0, hl0⟩
  have hdone : done D f h i = [] := by
    rcases hcase with ⟨rfl, _⟩ | ⟨rfl, hc0, hl0, _⟩
    · exact done_zero D f h
    · rw [done_succ D f h 0 d h0, done_zero]; simp [contrib, Skipped, hc0, hl0]
  refine ⟨ch, Mid.enter s.base.of s.eof rfl hch s.loc (by rw [hst, fileRead_zero]; rfl) (by rw [hst]; exact s.pos) rfl ?_ s.data
    (by rw [s.sk0, s.t0, s.dc, hdone]; rfl) (fun j cj hj hcj => Or.inl (hbefore j cj hj hcj))
    (fun hu hz => ⟨(s.dictOk hu hz).1, fun _ => (s.dictOk hu hz).2⟩) (fun hu => ?_) hnsk⟩
  · rw [hst, fileRead_zero]
    exact s.fhash.imp_right fun hfh => by cases tr <;> simp [hfh]
  · obtain ⟨d', hd', hlen⟩ := hpa hu
    rw [hd] at hd'; cases hd'
    exact Or.inl (Classical.byContradiction fun hne => by have := hdict hne; omega)

/-- outcome of one iteration (`Tp` = handed out by earlier calls): the call fails, or the invariant holds with the bytes copied so
far accounted for; a call that returns short has emptied the buffer and is at the end of the stream -/
def StepGood (tr : Bool) (ud : Bool) (n : Nat) (dv : Option Bytes) (sk Tp : Bytes) : Step → Prop
  | .done r c' => r.ret < 0 ∨ (r.ret = r.bytes.length ∧ SI H D f h tr ud n dv sk (Tp ++ r.bytes) c' ∧
      (r.bytes.length < n → c'.dc = [] ∧ (c'.dataEof = true ∨ (c'.dataIdx = none ∧ firstIdx h = none))))
  | .cont c' out' _ => SI H D f h tr ud n dv sk (Tp ++ out') c'

theorem Mid.read {ud n dv sk Tp out c k ch} (s : Mid H D f h tr ud n dv sk (Tp ++ out) c k ch) :
    StepGood (H := H) (D := D) (f := f) (h := h) tr ud n dv sk Tp (stepRead f n c ch out) := by
  refine stepRead_cases f n c ch out (fun _ _ _ _ _ => Or.inl (by show (-1 : Int) < 0; decide)) (fun rs src hrs hsrc _ _ => ?_)
  have hsl : src.length ≤ rs := by rw [hsrc]; exact length_fileRead_le f c.pos rs
  -- `src` is the piece of the file right behind what was consumed of the chunk
  have hsrc2 : fileRead f (dOff h + ch.start + c.dataLoc) src.length = src := by
    rw [← s.pos, hsrc]; exact fileRead_self f c.pos rs
  have hr2 : fileRead f (dOff h + ch.start) (c.dataLoc + src.length) =
      fileRead f (dOff h + ch.start) c.dataLoc ++ src := by rw [fileRead_add, hsrc2]
  have hF2 : fileRead f (dOff h) (ch.start + (c.dataLoc + src.length)) =
      fileRead f (dOff h) (ch.start + c.dataLoc) ++ src := by
    rw [← Nat.add_assoc, fileRead_add, ← Nat.add_assoc, hsrc2]
  have hloc := s.loc
  refine .mid k ch { s with base := s.base.of, loc := ?_, pres := ?_, pos := ?_, chash := ?_, fhash := ?_, dataZ := ?_, acct := ?_ }
  · show c.dataLoc + src.length ≤ ch.compLen
    omega
  · show (fileRead f (dOff h) (ch.start + (c.dataLoc + src.length))).length = ch.start + (c.dataLoc + src.length)
    rw [hF2, List.length_append, s.pres]; omega
  · show c.pos + src.length = dOff h + ch.start + (c.dataLoc + src.length)
    rw [s.pos]; omega
  · show some (c.chunkHash.getD [] ++ src) = some (fileRead f (dOff h + ch.start) (c.dataLoc + src.length))
    rw [hr2, s.chash]; rfl
  · show f4 h = true ∨ (if tr then (if flag4 c then c.fullHash else hashUpd c.fullHash src) =
        some (fileRead f (dOff h) (ch.start + (c.dataLoc + src.length)))
      else (if flag4 c then c.fullHash else hashUpd c.fullHash src).isSome = true)
    rw [hF2, flag4_eq s.base.hdr]
    rcases s.fhash with hc | hc
    · exact Or.inl hc
    · cases hf : f4 h with
      | true => exact Or.inl rfl
      | false =>
        right
        cases tr with
        | true => simp only [Bool.false_eq_true, ↓reduceIte] at hc ⊢; rw [hc]; rfl
        | false =>
          simp only [Bool.false_eq_true, ↓reduceIte] at hc ⊢
          rw [hashUpd, Option.isSome_map]; exact hc
  · intro hz
    show c.data ++ src = fileRead f (dOff h + ch.start) (c.dataLoc + src.length)
    rw [hr2, s.dataZ hz]
  · show sk ++ (Tp ++ out) ++ c.dc ++ (if h.compType = 0 then c.data ++ src else []) =
      done D f h k ++ (if h.compType = 0 then fileRead f (dOff h + ch.start) (c.dataLoc + src.length) else [])
    rw [hr2]
    have := s.acct
    by_cases hz : h.compType = 0
    · simp only [hz, ↓reduceIte] at this ⊢
      rw [← List.append_assoc, this, List.append_assoc]
    · simp only [hz, ↓reduceIte] at this ⊢
      exact this

/-- the context a successful chunk end leaves behind, but for the pending stored bytes of an uncompressed chunk, which stay
(`Reader.endCtx` is both cases in one) -/
def afterEnd (c : Ctx) (k : Nat) (extra : Bytes) : Ctx :=
  { c with data := [], dc := c.dc ++ extra, dataLoc := 0,
           dataIdx := if k + 1 < c.hdr.chunks.length then some (k + 1) else none,
           chunkHash := some [], valid := setValid c.valid k 1 }

/-- `Reader.endDchunk_eq_ok` with the two compression cases spelled out -/
theorem endDchunk_inv {c : Ctx} {k : Nat} {ch : Chunk} {ud : Bool} {c2 : Ctx}
    (he : endDchunk H D c k ch ud = .ok c2) :
    (∃ bs d, c.chunkHash = some bs ∧ H c.hdr.chunkHashType bs = some d ∧
      (if ch.compLen = 0 then zeros d.length else d) = ch.digest) ∧
    ((c.hdr.compType = 0 ∧ ch.compLen = ch.len ∧ c2 = { afterEnd c k [] with data := c.data }) ∨
     (c.hdr.compType ≠ 0 ∧ ∃ plain, D c.data (if ud then c.dict else none) = some plain ∧ plain.length = ch.len ∧
        c2 = afterEnd c k plain)) := by
  obtain ⟨plain, hdec, hv, rfl⟩ := endDchunk_eq_ok.mp he
  refine ⟨validateChunk_eq_one.mp hv, ?_⟩
  unfold Decodes at hdec
  by_cases h0 : c.hdr.compType = 0
  · rw [if_pos h0] at hdec
    obtain ⟨hl, rfl⟩ := hdec
    exact Or.inl ⟨h0, hl, by simp [endCtx, afterEnd, h0]⟩
  · rw [if_neg h0] at hdec
    exact Or.inr ⟨h0, plain, hdec.2.1, hdec.2.2, by simp [endCtx, afterEnd, h0]⟩

/-- the dictionary handed to the decoder at the end of chunk `k` is the one the format prescribes -/
theorem Mid.dictUsed {ud n dv sk T c k ch} (s : Mid H D f h tr ud n dv sk T c k ch)
    (hpa : ud = false → T.length + c.dc.length < n) (hz : h.compType ≠ 0) :
    (if ud = true then c.dict else none) = dictFor D f h k := by
  cases hu : ud with
  | true =>
    simp only [↓reduceIte]
    obtain ⟨h1, h2⟩ := s.dictOk hu hz
    rw [s.base.dict, h1]
    unfold dictFor
    split
    · rename_i hk0; exact h2 hk0
    · rfl
  | false =>
    rcases s.pa hu with h0 | ⟨_, _, h3⟩
    · simp [dictFor, h0]
    · have := hpa hu; omega

theorem Mid.endChunk {ud n dv sk T c k ch c2} (s : Mid H D f h tr ud n dv sk T c k ch) (hr : C13.RunFrom 0 0 h.chunks)
    (hloc : c.dataLoc = ch.compLen) (hdata0 : h.compType = 0 → c.data = [])
    (hpa : ud = false → T.length + c.dc.length < n ∧ sk = [] ∧ ∃ d, h.chunks.head? = some d ∧ d.len = n)
    (he : endDchunk H D c k ch ud = .ok c2) :
    SI H D f h tr ud n dv sk T (if c2.dataIdx.isNone then { c2 with dataEof := true } else c2) := by
  obtain ⟨plain, hdec, hv, rfl⟩ := endDchunk_eq_ok.mp he
  obtain ⟨bs, d, hbs, hHd, hdig⟩ := validateChunk_eq_one.mp hv
  obtain rfl : c.hdr = h := s.base.hdr
  unfold Decodes at hdec
  -- the chunk's stored bytes are all there and are what was hashed
  have hstl : (stored f c.hdr ch).length = ch.compLen := by
    unfold stored; rw [← hloc]; exact fileRead_full_sub f (dOff c.hdr) _ ch.start c.dataLoc s.pres (Nat.le_refl _)
  have hbs2 : bs = stored f c.hdr ch := by
    have := s.chash; rw [hbs, hloc] at this; exact Option.some.inj this
  have hsum : SumOk H f c.hdr ch := ⟨d, hbs2 ▸ hHd, hdig⟩
  -- so the chunk is good (the decoder was given the dictionary the format prescribes), and `plain` is the codec's part of its content
  obtain ⟨hcg, hcontrib⟩ : ChunkGood H D f c.hdr (dictFor D f c.hdr k) ch ∧
      contrib D f c.hdr k ch = plain ++ (if c.hdr.compType = 0 then stored f c.hdr ch else []) := by
    by_cases hz : c.hdr.compType = 0
    · rw [if_pos hz] at hdec
      have g : ChunkGood H D f c.hdr (dictFor D f c.hdr k) ch := ⟨hstl, hsum, by rw [if_pos hz]; exact hdec.1⟩
      exact ⟨g, by rw [g.contrib_eq, hdec.2, if_pos hz, plainOf, if_pos hz]; rfl⟩
    · rw [if_neg hz] at hdec
      have hD : D (stored f c.hdr ch) (dictFor D f c.hdr k) = some plain := by
        rw [← s.dictUsed (fun hu => (hpa hu).1) hz, ← hdec.2.1, s.dataZ hz, hloc]; rfl
      have g : ChunkGood H D f c.hdr (dictFor D f c.hdr k) ch := ⟨hstl, hsum, by rw [if_neg hz]; exact ⟨plain, hD, hdec.2.2⟩⟩
      exact ⟨g, by rw [g.contrib_eq, if_neg hz, List.append_nil, plainOf, if_neg hz, hD]; rfl⟩
  have hneeds : AllNeed H D f c.hdr (k + 1) := allNeed_succ H D f c.hdr k ch s.chk s.needs (Or.inr hcg)
  have hdone : sk ++ T ++ (c.dc ++ plain) = done D f c.hdr (k + 1) := by
    rw [done_succ D f c.hdr k ch s.chk, hcontrib]
    have := s.acct
    by_cases hz : c.hdr.compType = 0
    · simp only [hz, ↓reduceIte] at this hdec ⊢
      rw [hdata0 hz, hloc] at this
      rw [hdec.2]
      simpa [stored] using this
    · simp only [hz, ↓reduceIte, List.append_nil] at this ⊢
      rw [← List.append_assoc, this]
  have hklt := lt_length_of_getElem? s.chk
  by_cases hnext : k + 1 < c.hdr.chunks.length
  · have hidx : (endCtx c k plain).dataIdx = some (k + 1) := by simp [endCtx, hnext]
    simp only [hidx, Option.isNone_some, Bool.false_eq_true, ↓reduceIte]
    have hnx : c.hdr.chunks[k + 1]? = some c.hdr.chunks[k + 1] := List.getElem?_eq_getElem hnext
    have hst : (c.hdr.chunks[k + 1]).start = ch.start + ch.compLen := run_next hr k ch _ s.chk hnx
    refine .mid (k + 1) c.hdr.chunks[k + 1] (Mid.enter s.base.of s.eof hidx hnx rfl (by rw [hst, ← hloc]; exact s.pres)
      (by show c.pos = _; rw [hst, s.pos, hloc, Nat.add_assoc]) rfl (by rw [hst, ← hloc]; exact s.fhash) ?_ hdone hneeds
      (fun hu hz => ⟨(s.dictOk hu hz).1, fun hk => by omega⟩) ?_ fun hs => by have := hs.1; omega)
    · show (if c.hdr.compType = 0 then c.data else []) = []
      split
      · rename_i hz; exact hdata0 hz
      · rfl
    · -- during the dictionary import only the first entry is ever finished, and with it the request is met
      intro hu
      obtain ⟨hlt, hsk0, d0, hd0, hd0n⟩ := hpa hu
      rcases s.pa hu with hk0 | ⟨_, _, h3⟩
      · subst hk0
        obtain rfl : ch = d0 := by have := List.head?_eq_getElem? ▸ hd0; rw [s.chk] at this; exact Option.some.inj this
        have hzne : c.hdr.compType ≠ 0 := by
          intro hz
          -- stored chunk: everything read was handed out, so the call would already have returned
          have hacc := s.acct
          simp only [hz, ↓reduceIte, hdata0 hz, hsk0, done_zero, List.nil_append, List.append_nil] at hacc hdec
          have hl := congrArg List.length hacc
          rw [List.length_append, hloc, show (fileRead f (dOff c.hdr + ch.start) ch.compLen).length = ch.compLen from hstl] at hl
          omega
        rw [if_neg hzne] at hdec
        refine Or.inr ⟨rfl, hzne, ?_⟩
        show n ≤ T.length + (c.dc ++ plain).length
        rw [List.length_append, hdec.2.2]; omega
      · omega
  · have hidx : (endCtx c k plain).dataIdx = none := by simp [endCtx, hnext]
    simp only [hidx, Option.isNone_none, ↓reduceIte]
    have hlen : c.hdr.chunks.length = k + 1 := by omega
    have htot : ch.start + ch.compLen = total c.hdr := by rw [run_last hr k ch s.chk (by omega), Nat.zero_add]; rfl
    refine .fin ⟨s.base.of, rfl, ?_, ?_, ?_, by rw [hlen]; exact hneeds, ?_⟩
    · rw [← htot, ← hloc]; exact s.pres
    · show f4 c.hdr = true ∨ (if tr then c.fullHash = some (fileRead f (dOff c.hdr) (total c.hdr)) else c.fullHash.isSome = true)
      rw [← htot, ← hloc]; exact s.fhash
    · show sk ++ T ++ (c.dc ++ plain) = done D f c.hdr c.hdr.chunks.length
      rw [hlen]; exact hdone
    · intro hu
      rcases s.pa hu with hk0 | ⟨_, _, h3⟩
      · omega
      · have := (hpa hu).1; omega

theorem chunkAt_eq {c : Ctx} (hc : c.hdr = h) (k : Nat) : chunkAt c k = h.chunks[k]? := by simp [chunkAt, hc]

theorem SI.toStart {ud n dv sk T c} (s : SI H D f h tr ud n dv sk T c) (he : c.dataEof = false) (hi : c.dataIdx = none) :
    Start D f h ud dv sk T c := by
  cases s with
  | start s => exact s
  | mid k ch s => rw [s.idx] at hi; cases hi
  | fin s => rw [s.eof] at he; cases he

theorem SI.inChunk {ud n dv sk T c k} (s : SI H D f h tr ud n dv sk T c) (he : c.dataEof = false) (hi : c.dataIdx = some k) :
    ∃ ch, chunkAt c k = some ch ∧ Mid H D f h tr ud n dv sk T c k ch := by
  cases s with
  | start s => rw [s.idx] at hi; cases hi
  | fin s => rw [s.eof] at he; cases he
  | mid k' ch' s =>
    obtain rfl : k' = k := by have := s.idx; rw [hi] at this; exact (Option.some.inj this).symm
    exact ⟨ch', by rw [chunkAt_eq (h := h) s.base.hdr]; exact s.chk, s⟩

theorem SI.toMid {ud n dv sk T c k ch} (s : SI H D f h tr ud n dv sk T c) (he : c.dataEof = false) (hi : c.dataIdx = some k)
    (hc : chunkAt c k = some ch) : Mid H D f h tr ud n dv sk T c k ch := by
  obtain ⟨ch', hc', m⟩ := s.inChunk he hi
  rw [hc] at hc'; cases hc'; exact m

theorem tail_SI {ud n dv sk Tp out c} (fin : Bool) (hr : C13.RunFrom 0 0 h.chunks) (hn : 0 < n)
    (hpa : PA (h := h) ud n sk Tp) (hdc : c.dc = []) (hlt : out.length < n)
    (s1 : SI H D f h tr ud n dv sk (Tp ++ out) c) :
    StepGood (H := H) (D := D) (f := f) (h := h) tr ud n dv sk Tp (stepTail H D f n ud c out fin) := by
  have neg : ∀ (o : Bytes) (c' : Ctx), StepGood (H := H) (D := D) (f := f) (h := h) tr ud n dv sk Tp (.done ⟨-1, o⟩ c') :=
    fun _ _ => Or.inl (by show (-1 : Int) < 0; decide)
  have hh : c.hdr = h := s1.base.hdr
  refine stepTail_cases H D f n ud c out fin (fun h4 => Or.inr ⟨rfl, s1, fun _ => ⟨hdc, Or.inl h4⟩⟩) (fun h4 hz hd => ?_)
    (fun h4 hi hfi => ?_) (fun i h4 _ hi hfi => ?_) (fun _ _ _ _ => neg _ _) (fun k ch h4 hdat hi hc hloc => ?_)
    (fun _ _ _ _ _ _ _ => neg _ _) (fun k ch h4 hi hc _ _ => (s1.toMid h4 hi hc).read)
  · -- pending stored bytes of an uncompressed chunk
    cases s1 with
    | start s => exact absurd s.data hd
    | mid k ch s => exact .mid k ch (s.moveData (hh ▸ hz))
    | fin s => rw [s.eof] at h4; cases h4
  · -- an index with nothing to read
    have s := s1.toStart h4 hi
    have hout : out = [] := (List.append_eq_nil_iff.mp s.t0).2
    refine Or.inr ⟨by rw [hout]; rfl, ?_, fun _ => ⟨hdc, Or.inr ⟨rfl, hh ▸ hfi⟩⟩⟩
    exact .start { s with base := s.base.of, idx := rfl }
  · -- into the first chunk
    obtain ⟨ch, hmid⟩ := (s1.toStart h4 hi).first hr hn (fun hu => (hpa hu).2.2) i (hh ▸ hfi)
    exact .mid i ch hmid
  · -- the end of the current chunk
    unfold stepEnd
    cases he : endDchunk H D c k ch ud with
    | oom => exact neg _ _
    | fail => exact neg _ _
    | badSum => exact neg _ _
    | ok c2 =>
      refine (s1.toMid h4 hi hc).endChunk hr hloc (fun hz => hdat (hh ▸ hz)) (fun hu => ?_) he
      obtain ⟨htp, hsk, hd⟩ := hpa hu
      exact ⟨by rw [htp, hdc]; simpa using hlt, hsk, hd⟩

theorem step_SI {ud n dv sk Tp out c} (fin : Bool) (hr : C13.RunFrom 0 0 h.chunks) (hn : 0 < n)
    (hpa : PA (h := h) ud n sk Tp) (s : SI H D f h tr ud n dv sk (Tp ++ out) c) :
    StepGood (H := H) (D := D) (f := f) (h := h) tr ud n dv sk Tp (step H D f n ud c out fin) := by
  have s1 : ∀ m, SI H D f h tr ud n dv sk (Tp ++ (out ++ c.dc.take m)) { c with dc := c.dc.drop m } := fun m => by
    rw [← List.append_assoc]; exact s.handout m
  refine step_cases H D f n ud c out fin (fun h1 => Or.inr ⟨rfl, s, fun (hlt : out.length < n) => by omega⟩)
    (fun he => by rw [s.base.noerr] at he; cases he) (fun m _ hlen hmn => ?_) (fun m _ _ _ => s1 m)
    (fun hlt _ hdc => tail_SI fin hr hn hpa hdc hlt s)
  exact Or.inr ⟨by show (n : Int) = ((out ++ c.dc.take m).length : Nat); rw [hlen, hmn], s1 m,
    fun (hlt : (out ++ c.dc.take m).length < n) => by rw [hlen] at hlt; omega⟩

/-- the end-of-data flag is set, or no entry was ever entered and the index has none with anything to read -/
def AtEnd (c : Ctx) : Prop := c.dataEof = true ∨ (c.dataIdx = none ∧ firstIdx h = none)

/-- outcome of a whole call: failure, or the invariant with the delivered bytes accounted for; a call that comes up short has
emptied the buffer and is at the end of the stream -/
def CallGood (tr : Bool) (ud : Bool) (n : Nat) (dv : Option Bytes) (sk Tp : Bytes) (r : RdOut × Ctx) : Prop :=
  r.1.ret < 0 ∨ (r.1.ret = r.1.bytes.length ∧ SI H D f h tr ud n dv sk (Tp ++ r.1.bytes) r.2 ∧
    (r.1.bytes.length < n → r.2.dc = [] ∧ AtEnd (h := h) r.2))

theorem readLoop_SI {ud n dv sk Tp} (hr : C13.RunFrom 0 0 h.chunks) (hn : 0 < n) (hpa : PA (h := h) ud n sk Tp) :
    ∀ (fuel : Nat) (c : Ctx) (out : Bytes) (fin : Bool), SI H D f h tr ud n dv sk (Tp ++ out) c →
      CallGood (H := H) (D := D) (f := f) (h := h) tr ud n dv sk Tp (readLoop H D f n ud fuel c out fin)
  | 0, c, out, fin, _ => by
    unfold readLoop
    exact Or.inl (by show (-3 : Int) < 0; decide)
  | fuel + 1, c, out, fin, s => by
    unfold readLoop
    have hs := step_SI fin hr hn hpa s
    cases hst : step H D f n ud c out fin with
    | done r c' => rw [hst] at hs; exact hs
    | cont c' out' fin' => rw [hst] at hs; exact readLoop_SI hr hn hpa fuel c' out' fin' hs

/-- for `use_dict = 1` the request size plays no part in the invariant -/
theorem SI.retag {n n' dv sk T c} (s : SI H D f h tr true n dv sk T c) : SI H D f h tr true n' dv sk T c := by
  cases s with
  | start s => exact .start s
  | mid k ch s =>
    exact .mid k ch { s with pa := nofun }
  | fin s => exact .fin s

/-- what is known about the bytes `sk` taken out of the stream for the dictionary: none if the first entry is empty; otherwise at
least its declared length, and no more than its content once it is known to be good -/
def Side (sk : Bytes) : Prop :=
  ∀ d, h.chunks.head? = some d →
    (d.len = 0 → sk = []) ∧ (0 < d.len → d.len ≤ sk.length ∧ (Need H D f h 0 d → sk.length ≤ (contrib D f h 0 d).length))

theorem Side.length_eq {sk : Bytes} (hside : Side (H := H) (D := D) (f := f) (h := h) sk) {d : Chunk}
    (hd : h.chunks.head? = some d) (hnd : Need H D f h 0 d) : sk.length = (contrib D f h 0 d).length := by
  have hcl := contrib_len_of_need (H := H) 0 d hnd
  obtain ⟨s0, s1⟩ := hside d hd
  rcases Nat.eq_zero_or_pos d.len with hz | hz
  · rw [s0 hz, hcl, hz]; rfl
  · obtain ⟨a, b⟩ := s1 hz
    exact Nat.le_antisymm (b hnd) (hcl ▸ a)

/-- once every entry is known to be good, what was taken out in front is the contribution of the first entry, and what follows
it in the accounting is the content of the data chunks -/
theorem Side.cancel {sk X : Bytes} (hside : Side (H := H) (D := D) (f := f) (h := h) sk)
    (hn : AllNeed H D f h h.chunks.length) (hacc : sk ++ X = done D f h h.chunks.length) :
    X = doneFrom D f h 1 (h.chunks.drop 1) := by
  cases hc : h.chunks with
  | nil =>
    rw [hc] at hacc
    simp [(List.append_eq_nil_iff.mp hacc).2, doneFrom]
  | cons d tl =>
    have hd : h.chunks.head? = some d := by rw [hc]; rfl
    have hdone : done D f h h.chunks.length = contrib D f h 0 d ++ doneFrom D f h 1 tl := by
      unfold done; rw [List.take_length, hc]; rfl
    rw [hdone] at hacc
    exact (List.append_inj hacc (hside.length_eq hd (hn 0 d (by rw [hc]; exact Nat.succ_pos _) (by rw [hc]; rfl)))).2

/-- the dictionary, if the file has one, is installed -/
def DvOk (dv : Option Bytes) : Prop := ∀ d, h.chunks.head? = some d → 0 < d.len → dv.isSome = true

/-- state between two `zck_read` calls once the dictionary (if any) has been imported -/
def Post (T : Bytes) (c : Ctx) : Prop :=
  ∃ dv sk, SI H D f h true true 0 dv sk T c ∧ DvOk (h := h) dv ∧ Side (H := H) (D := D) (f := f) (h := h) sk

/-- state before the first read of a file with a dictionary -/
def Pre (T : Bytes) (c : Ctx) : Prop :=
  T = [] ∧ Start D f h false none [] [] c ∧ ∃ d, h.chunks.head? = some d ∧ 0 < d.len

/-- `import_dict` before the first read of a file with a dictionary is the loop, asked for the declared length of the first entry -/
theorem importDict_eq {c : Ctx} {d : Chunk} (s : Start D f h false none [] [] c) (hd : h.chunks.head? = some d) (hlen : 0 < d.len) :
    importDict H D f c =
      (if (readLoop H D f d.len false (fuelFor f c d.len) c [] false).1.ret ≠ d.len then
         (false, { (readLoop H D f d.len false (fuelFor f c d.len) c [] false).2 with err := true, fatal := false })
       else (true, { (readLoop H D f d.len false (fuelFor f c d.len) c [] false).2 with
         dc := [], dict := some (readLoop H D f d.len false (fuelFor f c d.len) c [] false).1.bytes, started := true })) := by
  unfold importDict compReadRaw
  rw [s.base.hdr, hd]
  simp [s.base.noerr, s.base.started, Nat.ne_of_gt hlen]

theorem import_SI (hr : C13.RunFrom 0 0 h.chunks) (d : Chunk) (hd : h.chunks.head? = some d) (hlen : 0 < d.len) (c : Ctx)
    (s : Start D f h false none [] [] c) :
    (importDict H D f c).1 = false ∨
    ((importDict H D f c).1 = true ∧ Post (H := H) (D := D) (f := f) (h := h) [] (importDict H D f c).2) := by
  rw [importDict_eq s hd hlen]
  have hpa : PA (h := h) false d.len [] [] := fun _ => ⟨rfl, rfl, d, hd, rfl⟩
  have hl := readLoop_SI (H := H) (D := D) (f := f) (tr := true) (dv := none) hr hlen hpa (fuelFor f c d.len) c [] false
    (by simpa using SI.start s)
  generalize readLoop H D f d.len false (fuelFor f c d.len) c [] false = r at hl ⊢
  obtain ⟨ro, c1⟩ := r
  by_cases hne : ro.ret ≠ d.len
  · rw [if_pos hne]; exact Or.inl rfl
  rw [if_neg hne]
  have hret : ro.ret = d.len := Classical.not_not.mp hne
  refine Or.inr ⟨rfl, ?_⟩
  rcases hl with hneg | ⟨hrl, hsi, _⟩
  · simp only [hret] at hneg; omega
  simp only [List.nil_append] at hrl hsi
  have hbl : ro.bytes.length = d.len := by rw [hret] at hrl; exact_mod_cast hrl.symm
  have h0 := List.head?_eq_getElem? ▸ hd
  have hnsk : ¬ Skipped 0 d := fun hs => by have := hs.2.2; omega
  -- the dictionary and whatever else the import decoded go out of the stream; it remains to say, state by state, that the
  -- dictionary installed is the right one and that no more than the first entry's content was taken out
  suffices hkey : SI H D f h true true 0 (some ro.bytes) (ro.bytes ++ c1.dc) []
        { c1 with dc := [], dict := some ro.bytes, started := true } ∧
      (Need H D f h 0 d → (ro.bytes ++ c1.dc).length ≤ (contrib D f h 0 d).length) from
    ⟨some ro.bytes, ro.bytes ++ c1.dc, hkey.1, fun _ _ _ => rfl, fun d' hd' => by
      rw [hd] at hd'; cases hd'
      exact ⟨fun h0' => by omega, fun _ => ⟨by rw [List.length_append, hbl]; omega, hkey.2⟩⟩⟩
  cases hsi with
  | start s1 => rw [s1.t0] at hbl; simp at hbl; omega
  | fin s1 =>
    -- the dictionary is the only entry
    have hacc : ro.bytes ++ c1.dc = contrib D f h 0 d := by
      have := s1.acct
      rwa [s1.pa rfl, done_succ D f h 0 d h0, done_zero, List.nil_append, List.nil_append] at this
    refine ⟨.fin { s1 with base := ⟨s1.base.hdr, s1.base.noerr, rfl, rfl⟩, acct := ?_, pa := nofun },
      fun _ => by rw [hacc]; exact Nat.le_refl _⟩
    simpa using s1.acct
  | mid k ch s1 =>
    have hmid : ∀ hdo, SI H D f h true true 0 (some ro.bytes) (ro.bytes ++ c1.dc) []
        { c1 with dc := [], dict := some ro.bytes, started := true } := fun hdo => by
      refine .mid k ch { s1 with base := ⟨s1.base.hdr, s1.base.noerr, rfl, rfl⟩, acct := ?_, dictOk := hdo, pa := nofun }
      simpa using s1.acct
    rcases s1.pa rfl with rfl | ⟨rfl, hz, _⟩
    · -- still inside the first entry: it is a stored chunk, and what was taken out is a piece of its stored bytes
      obtain rfl : ch = d := by have := s1.chk; rw [h0] at this; exact (Option.some.inj this).symm
      have hz : h.compType = 0 := Classical.byContradiction fun hz => by
        have := s1.acct
        simp only [hz, ↓reduceIte, done_zero, List.append_nil, List.nil_append] at this
        rw [(List.append_eq_nil_iff.mp this).1] at hbl; simp at hbl; omega
      refine ⟨hmid fun _ hne => absurd hz hne, fun hnd => ?_⟩
      have hacc := congrArg List.length s1.acct
      simp only [hz, ↓reduceIte, done_zero, List.nil_append, List.length_append] at hacc
      have hrl2 := length_fileRead_le f (dOff h + ch.start) c1.dataLoc
      have hloc := s1.loc
      rcases hnd with hs | g
      · exact absurd hs hnsk
      · -- the declared and the stored length agree for a verified stored chunk
        have hcl : ch.compLen = ch.len := by have := g.2.2; rwa [if_pos hz] at this
        rw [List.length_append, g.contrib_eq, g.plain.1]; omega
    · -- the first entry is finished: what was taken out is its content, all of it in the dictionary
      have hacc : ro.bytes ++ c1.dc = contrib D f h 0 d := by
        have := s1.acct
        rwa [if_neg hz, if_neg hz, List.append_nil, List.append_nil, List.nil_append, done_succ D f h 0 d h0, done_zero,
          List.nil_append] at this
      refine ⟨hmid fun _ _ => ⟨?_, fun h10 => by omega⟩, fun _ => by rw [hacc]; exact Nat.le_refl _⟩
      have hdc : c1.dc = [] := List.eq_nil_of_length_eq_zero (by
        have := congrArg List.length hacc
        rw [List.length_append, contrib_len_of_need 0 d (s1.needs 0 d (by omega) h0), hbl] at this; omega)
      rw [hdc, List.append_nil] at hacc
      rw [dictMain, hd, hacc, contrib, if_neg hnsk]
      simp [dictFor, Nat.ne_of_gt hlen]

/-- state between two `zck_read` calls -/
def P (T : Bytes) (c : Ctx) : Prop :=
  Pre (D := D) (f := f) (h := h) T c ∨ Post (H := H) (D := D) (f := f) (h := h) T c

/-- outcome of one `zck_read` -/
def ReadGood (T : Bytes) (n : Nat) (r : RdOut × Ctx) : Prop :=
  r.1.ret < 0 ∨ (r.1.ret = r.1.bytes.length ∧ P (H := H) (D := D) (f := f) (h := h) (T ++ r.1.bytes) r.2 ∧
    (r.1.bytes.length < n →
      Post (H := H) (D := D) (f := f) (h := h) (T ++ r.1.bytes) r.2 ∧ r.2.dc = [] ∧ AtEnd (h := h) r.2))

theorem compRead_zero {T : Bytes} {c : Ctx} (hp : P (H := H) (D := D) (f := f) (h := h) T c) :
    compRead H D f c 0 = (⟨0, []⟩, c) := by
  have hb : c.err = false ∧ c.started = true := by
    rcases hp with ⟨_, s, _⟩ | ⟨dv, sk, s, _, _⟩ <;> exact ⟨s.base.noerr, s.base.started⟩
  unfold compRead
  rw [if_neg (by simp [hb.1]), if_neg (by simp [hb.2]), if_pos rfl]

/-- `zck_read` of `n > 0` bytes on a state between two calls either fails before the loop — no index entry, a dictionary too
large to allocate, a failed import — or is the loop, started from a state of the main stream -/
theorem compRead_loop (hr : C13.RunFrom 0 0 h.chunks) (T : Bytes) (c : Ctx) (n : Nat) (hn : 0 < n)
    (hp : P (H := H) (D := D) (f := f) (h := h) T c) :
    ((compRead H D f c n).1.ret < 0 ∧ (h.chunks = [] ∨ ∃ d, h.chunks.head? = some d ∧ 0 < d.len ∧
        Start D f h false none [] [] c ∧ (allocLimit ≤ d.len ∨ (importDict H D f c).1 = false))) ∨
    ∃ dv sk c1, DvOk (h := h) dv ∧ Side (H := H) (D := D) (f := f) (h := h) sk ∧ SI H D f h true true n dv sk (T ++ []) c1 ∧
      compRead H D f c n = readLoop H D f n true (fuelFor f c1 n) c1 [] false := by
  have neg : ((-1 : Int) < 0) := by decide
  unfold compRead
  have hb : Base h c.dict c := by
    rcases hp with ⟨_, s, _⟩ | ⟨dv, sk, s, _, _⟩ <;> exact ⟨s.base.hdr, s.base.noerr, s.base.started, rfl⟩
  rw [if_neg (by simp [hb.noerr]), if_neg (by simp [hb.started]), if_neg (by omega), hb.hdr]
  cases hd : h.chunks.head? with
  | none => exact Or.inl ⟨neg, Or.inl (List.head?_eq_none_iff.mp hd)⟩
  | some d =>
    simp only
    rcases hp with ⟨hT, s, d', hd', hlen⟩ | ⟨dv, sk, s, hdv, hside⟩
    · rw [hd] at hd'; cases hd'
      rw [if_pos ⟨hlen, by rw [s.base.dict]; rfl⟩]
      by_cases hal : d.len ≥ allocLimit
      · rw [if_pos hal]; exact Or.inl ⟨neg, Or.inr ⟨d, rfl, hlen, s, Or.inl hal⟩⟩
      rw [if_neg hal]
      rcases import_SI (H := H) hr d hd hlen c s with hf | ⟨ht, dv, sk, s1, hdv, hside⟩
      · rw [show importDict H D f c = (false, (importDict H D f c).2) by rw [← hf]]
        exact Or.inl ⟨neg, Or.inr ⟨d, rfl, hlen, s, Or.inr rfl⟩⟩
      · rw [show importDict H D f c = (true, (importDict H D f c).2) by rw [← ht]]
        exact Or.inr ⟨dv, sk, _, hdv, hside, by rw [hT]; exact s1.retag, rfl⟩
    · have hno : ¬ (d.len > 0 ∧ c.dict.isNone = true) := fun ⟨hl, hnone⟩ => by
        have := hdv d hd hl
        rw [s.base.dict] at hnone
        rw [Option.isNone_iff_eq_none.mp hnone] at this; cases this
      rw [if_neg hno]
      exact Or.inr ⟨dv, sk, c, hdv, hside, by simpa using s.retag, rfl⟩

theorem compRead_P (hr : C13.RunFrom 0 0 h.chunks) (T : Bytes) (c : Ctx) (n : Nat)
    (hp : P (H := H) (D := D) (f := f) (h := h) T c) :
    ReadGood (H := H) (D := D) (f := f) (h := h) T n (compRead H D f c n) := by
  by_cases hn0 : n = 0
  · subst hn0
    rw [compRead_zero hp]
    exact Or.inr ⟨rfl, by simpa using hp, fun hlt => by simp only [List.length_nil] at hlt; omega⟩
  · rcases compRead_loop hr T c n (by omega) hp with ⟨hneg, _⟩ | ⟨dv, sk, c1, hdv, hside, s, e⟩
    · exact Or.inl hneg
    · rw [e]
      rcases readLoop_SI hr (by omega) (fun hu => by cases hu) (fuelFor f c1 n) c1 [] false s with hneg | ⟨h1, h2, h3⟩
      · exact Or.inl hneg
      · have hp : Post (H := H) (D := D) (f := f) (h := h) (T ++ _) _ := ⟨dv, sk, h2.retag, hdv, hside⟩
        exact Or.inr ⟨h1, Or.inr hp, fun hlt => ⟨hp, h3 hlt⟩⟩

/-- a sequence of `zck_read` calls on one context: the results, in order, and the final context -/
def reads (H : HashFn) (D : Decomp) (f : Bytes) : Ctx → List Nat → List RdOut × Ctx
  | c, [] => ([], c)
  | c, n :: ns =>
    let r := compRead H D f c n
    let rest := reads H D f r.2 ns
    (r.1 :: rest.1, rest.2)

/-- the bytes a sequence of calls handed out -/
def outOf (rs : List RdOut) : Bytes := (rs.map (·.bytes)).flatten

theorem reads_append (c : Ctx) (a b : List Nat) :
    reads H D f c (a ++ b) =
      ((reads H D f c a).1 ++ (reads H D f (reads H D f c a).2 b).1, (reads H D f (reads H D f c a).2 b).2) := by
  induction a generalizing c with
  | nil => simp [reads]
  | cons n a ih => simp [reads, ih]

theorem reads_P (hr : C13.RunFrom 0 0 h.chunks) :
    ∀ (ns : List Nat) (T : Bytes) (c : Ctx), P (H := H) (D := D) (f := f) (h := h) T c →
      (∀ r ∈ (reads H D f c ns).1, 0 ≤ r.ret) →
      P (H := H) (D := D) (f := f) (h := h) (T ++ outOf (reads H D f c ns).1) (reads H D f c ns).2
  | [], T, c, hp, _ => by simpa [reads, outOf] using hp
  | n :: ns, T, c, hp, hall => by
    simp only [reads] at hall ⊢
    have h1 := compRead_P (H := H) hr T c n hp
    rcases h1 with hneg | ⟨_, hp2, _⟩
    · have := hall _ (List.mem_cons_self); omega
    · have := reads_P hr ns _ _ hp2 (fun r hr' => hall r (List.mem_cons_of_mem _ hr'))
      simpa [outOf, List.append_assoc] using this

/-- what the format says the file holds: every index entry all there, verified and of its declared length (the empty
dictionary entry is passed over), the data section complete, and `out` the contents of the data chunks in index order -/
structure Decoded (H : HashFn) (D : Decomp) (f : Bytes) (h : Hdr) (out : Bytes) : Prop where
  needs : AllNeed H D f h h.chunks.length
  present : (fileRead f (dOff h) (total h)).length = total h
  content : out = doneFrom D f h 1 (h.chunks.drop 1)

/-- the whole data section hashes to the data checksum of the header (not checked under the uncompressed-source flag) -/
def DataOk (H : HashFn) (f : Bytes) (h : Hdr) : Prop :=
  f4 h = true ∨ H h.hashType (fileRead f (dOff h) (total h)) = some h.dataDigest

theorem Start.toP {c : Ctx} (s : Start D f h false none [] [] c) : P (H := H) (D := D) (f := f) (h := h) [] c := by
  by_cases hx : ∃ d, h.chunks.head? = some d ∧ 0 < d.len
  · exact Or.inl ⟨rfl, s, hx⟩
  · -- no dictionary to import: the main stream starts here
    have hdm : dictMain D f h = none := by
      unfold dictMain
      split
      · rename_i d hd; exact if_pos (Nat.eq_zero_of_not_pos fun hpos => hx ⟨d, hd, hpos⟩)
      · rfl
    exact Or.inr ⟨none, [], .start { s with dictOk := fun _ _ => ⟨hdm.symm, hdm⟩ }, fun d hd hpos => absurd ⟨d, hd, hpos⟩ hx,
      fun d hd => ⟨fun _ => rfl, fun hpos => absurd ⟨d, hd, hpos⟩ hx⟩⟩

theorem open_P : P (H := H) (D := D) (f := f) (h := h) [] (openCtx h) :=
  Start.toP ⟨⟨rfl, rfl, rfl, rfl⟩, rfl, rfl, rfl, rfl, rfl, rfl, Or.inr rfl, rfl, rfl, nofun⟩

theorem SI.atEnd {tr ud n dv sk T c} (s : SI H D f h tr ud n dv sk T c) (hend : AtEnd (h := h) c) :
    AllNeed H D f h h.chunks.length ∧ (fileRead f (dOff h) (total h)).length = total h ∧
    sk ++ T ++ c.dc = done D f h h.chunks.length ∧
    (f4 h = true ∨ (if tr then c.fullHash = some (fileRead f (dOff h) (total h)) else c.fullHash.isSome = true)) := by
  cases s with
  | mid k ch s =>
    rcases hend with he | ⟨hi, _⟩
    · rw [s.eof] at he; cases he
    · rw [s.idx] at hi; cases hi
  | fin s => exact ⟨s.needs, s.pres, s.acct, s.fhash⟩
  | start s =>
    rcases hend with he | ⟨_, hfi⟩
    · rw [s.eof] at he; cases he
    · -- an index with nothing but (at most) the empty dictionary entry
      have hfh : f4 h = true ∨ (if tr then c.fullHash = some [] else c.fullHash.isSome = true) :=
        s.fhash.imp_right fun hf => by cases tr <;> simp [hf]
      rcases firstIdx_eq_none.mp hfi with hnil | ⟨d, hone, hc0, hl0⟩
      · have htot : total h = 0 := by simp [total, hnil, C13.sumLen]
        rw [htot, fileRead_zero, hnil, s.sk0, s.t0, s.dc]
        exact ⟨fun j ch hj => by simp at hj, rfl, by simp [done, doneFrom], hfh⟩
      · have htot : total h = 0 := by simp [total, hone, C13.sumLen, hc0]
        rw [htot, fileRead_zero, hone, s.sk0, s.t0, s.dc]
        refine ⟨fun j ch hj hch => ?_, rfl, by simp [done, hone, doneFrom, contrib, Skipped, hc0, hl0], hfh⟩
        obtain rfl : j = 0 := by simpa using hj
        simp [hone] at hch; subst hch
        exact Or.inl ⟨rfl, hc0, hl0⟩

theorem SI.prefix {tr ud n dv sk T c} (s : SI H D f h tr ud n dv sk T c) :
    (sk ++ T) <+: done D f h h.chunks.length := by
  cases s with
  | start s => rw [s.sk0, s.t0]; exact List.nil_prefix
  | fin s => exact ⟨c.dc, s.acct⟩
  | mid k ch s =>
    have hlt := lt_length_of_getElem? s.chk
    have hacc := s.acct
    -- done k ++ (what was read of chunk k) is a prefix of done (k + 1)
    have hpre : (done D f h k ++ (if h.compType = 0 then fileRead f (dOff h + ch.start) c.dataLoc else [])) <+:
        done D f h h.chunks.length := by
      refine List.IsPrefix.trans ?_ (done_prefix (k + 1) hlt)
      rw [done_succ D f h k ch s.chk]
      refine (List.prefix_append_right_inj _).mpr ?_
      by_cases hz : h.compType = 0
      · rw [if_pos hz]
        unfold contrib
        rw [if_neg s.nsk]
        unfold plainOf stored
        rw [if_pos hz]
        have hl := s.loc
        refine ⟨fileRead f (dOff h + ch.start + c.dataLoc) (ch.compLen - c.dataLoc), ?_⟩
        rw [← fileRead_add]
        congr 1; omega
      · rw [if_neg hz]; exact List.nil_prefix
    rw [← hacc] at hpre
    exact List.IsPrefix.trans ⟨c.dc ++ (if h.compType = 0 then c.data else []), by simp [List.append_assoc]⟩ hpre

theorem post_end {T : Bytes} {c : Ctx} (hp : Post (H := H) (D := D) (f := f) (h := h) T c) (hdc : c.dc = [])
    (hend : AtEnd (h := h) c) : Decoded H D f h T ∧ (close H c = true → DataOk H f h) := by
  obtain ⟨dv, sk, s, hdv, hside⟩ := hp
  obtain ⟨hneeds, hpres, hacc, hfh⟩ := s.atEnd hend
  rw [hdc, List.append_nil] at hacc
  refine ⟨⟨hneeds, hpres, ?_⟩, fun hcl => ?_⟩
  · exact hside.cancel hneeds hacc
  · have hcd := (close_eq_true.mp hcl).2
    rw [flag4_eq s.base.hdr, s.base.hdr] at hcd
    rcases hcd with h4 | ⟨bs, hb, hH⟩
    · exact Or.inl h4
    · rcases hfh with h4 | hf
      · exact Or.inl h4
      · rw [if_pos rfl, hb] at hf; cases hf
        exact Or.inr hH

/-- reads that all succeed, the last one short: the main stream's invariant holds at the end of the stream with the buffer empty -/
theorem short_read_end (hr : C13.RunFrom 0 0 h.chunks) (c0 : Ctx) (hp : P (H := H) (D := D) (f := f) (h := h) [] c0)
    (init : List Nat) (nl : Nat)
    (hall : ∀ r ∈ (reads H D f c0 init).1, 0 ≤ r.ret)
    (hlast : 0 ≤ (compRead H D f (reads H D f c0 init).2 nl).1.ret)
    (hshort : (compRead H D f (reads H D f c0 init).2 nl).1.ret < nl) :
    Post (H := H) (D := D) (f := f) (h := h)
      (outOf (reads H D f c0 init).1 ++ (compRead H D f (reads H D f c0 init).2 nl).1.bytes)
      (compRead H D f (reads H D f c0 init).2 nl).2 ∧
    (compRead H D f (reads H D f c0 init).2 nl).2.dc = [] ∧ AtEnd (h := h) (compRead H D f (reads H D f c0 init).2 nl).2 := by
  have hp2 := reads_P (H := H) (D := D) (f := f) hr init [] c0 hp hall
  rcases compRead_P (H := H) hr _ _ nl hp2 with hneg | ⟨hret, _, hsh⟩
  · omega
  · exact hsh (by rw [hret] at hshort; exact_mod_cast hshort)

/-- `stream_sound` from any context in which the invariant holds -/
theorem stream_sound_from (hr : C13.RunFrom 0 0 h.chunks) (c0 : Ctx) (hp : P (H := H) (D := D) (f := f) (h := h) [] c0)
    (init : List Nat) (nl : Nat)
    (hall : ∀ r ∈ (reads H D f c0 init).1, 0 ≤ r.ret)
    (hlast : 0 ≤ (compRead H D f (reads H D f c0 init).2 nl).1.ret)
    (hshort : (compRead H D f (reads H D f c0 init).2 nl).1.ret < nl) :
    Decoded H D f h (outOf (reads H D f c0 init).1 ++ (compRead H D f (reads H D f c0 init).2 nl).1.bytes) ∧
    (close H (compRead H D f (reads H D f c0 init).2 nl).2 = true → DataOk H f h) :=
  have ⟨hpost, hdc, hend⟩ := short_read_end hr c0 hp init nl hall hlast hshort
  post_end hpost hdc hend

theorem stream_sound (hr : C13.RunFrom 0 0 h.chunks) (init : List Nat) (nl : Nat)
    (hall : ∀ r ∈ (reads H D f (openCtx h) init).1, 0 ≤ r.ret)
    (hlast : 0 ≤ (compRead H D f (reads H D f (openCtx h) init).2 nl).1.ret)
    (hshort : (compRead H D f (reads H D f (openCtx h) init).2 nl).1.ret < nl) :
    Decoded H D f h (outOf (reads H D f (openCtx h) init).1 ++ (compRead H D f (reads H D f (openCtx h) init).2 nl).1.bytes) ∧
    (close H (compRead H D f (reads H D f (openCtx h) init).2 nl).2 = true → DataOk H f h) :=
  stream_sound_from hr _ open_P init nl hall hlast hshort

end
end Zck.Stream
