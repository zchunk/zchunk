/-
C16 — Chunking is deterministic, content-defined and local.
Theorems about the chunker model (`Writer.lean`: automatic branch of `zck_write` with the buzhash
state, `zck_end_chunk`), for EVERY configuration, content and segmentation.  The model is a
function (no clock, pid or temp-file name can reach the output): determinism is by construction.
That the real `zck_write`'s batching (`comp_write` of whole runs) is equivalent to this per-byte
model is what the correspondence runs check (same content, different segmentations ⇒ identical
files; chunk sizes = the model's).
-/
import ZckModel.WriterLemmas

namespace Zck.C16
open Zck.Writer

/-- segmentation independence (automatic mode): delivering content through any sequence of write calls is the same as one
write of the concatenation -/
theorem segmentation_indep (cfg : Cfg) (hm : cfg.manual = false) :
    ∀ (segs : List Bytes) (st : St), run cfg st (segs.map Op.write) = writeAuto cfg st segs.flatten
  | [], st => by simp [run, writeAuto]
  | s :: segs, st => by
    simp only [List.map_cons, run, List.flatten_cons, writeAuto_append]
    rw [applyOp_auto st s hm]
    cases writeAuto cfg st s with
    | none => rfl
    | some st' => exact segmentation_indep cfg hm segs st'

theorem same_content_same_chunks (cfg : Cfg) (hm : cfg.manual = false) (s1 s2 : List Bytes)
    (h : s1.flatten = s2.flatten) :
    closeChunks cfg (s1.map Op.write) = closeChunks cfg (s2.map Op.write) := by
  unfold closeChunks
  have hm' : cfg.norm.manual = false := hm
  rw [segmentation_indep cfg.norm hm', segmentation_indep cfg.norm hm', h]

/-- prefix locality: the chunks finished while the shared prefix `p` is being written are
finished chunks of the whole output, whatever follows — and they account for all of `p` except
the chunk still under construction at its end.  A chunk is finished when the byte FOLLOWING it is
examined, so these are exactly the chunks that end strictly before the first differing byte. -/
theorem prefix_local (cfg : Cfg) (p x : Bytes) (sp sx : St)
    (hp : writeAuto cfg {} p = some sp) (hx : writeAuto cfg {} (p ++ x) = some sx) :
    (∃ more, sx.chunks = sp.chunks ++ more) ∧ sp.chunks.flatten ++ sp.cur = p := by
  rw [writeAuto_append, hp] at hx
  simp only [Option.bind_some] at hx
  rw [writeAuto_acc] at hx
  obtain ⟨t, _, rfl⟩ := Option.map_eq_some_iff.mp hx
  exact ⟨⟨t.chunks, rfl⟩, by simpa [content, St.cur] using writeAuto_content cfg p {} sp hp⟩

theorem shared_prefix_chunks (cfg : Cfg) (p x y : Bytes) (sp sx sy : St)
    (hp : writeAuto cfg {} p = some sp) (hx : writeAuto cfg {} (p ++ x) = some sx)
    (hy : writeAuto cfg {} (p ++ y) = some sy) :
    ∃ mx my, sx.chunks = sp.chunks ++ mx ∧ sy.chunks = sp.chunks ++ my :=
  let ⟨⟨mx, h1⟩, _⟩ := prefix_local cfg p x sp sx hp hx
  let ⟨⟨my, h2⟩, _⟩ := prefix_local cfg p y sp sy hp hy
  ⟨mx, my, h1, h2⟩

/-- suffix resynchronisation: two writers whose chunk under construction and rolling-hash
state agree (in particular: both at the start of a chunk) finish exactly the same further chunks
on the same further bytes, whatever they produced before -/
theorem suffix_resync (cfg : Cfg) (s : Bytes) (st1 st2 a b : St)
    (hcore : st1.curR = st2.curR ∧ st1.curLen = st2.curLen ∧ st1.buz = st2.buz)
    (h1 : writeAuto cfg st1 s = some a) (h2 : writeAuto cfg st2 s = some b) :
    ∃ m, a.chunks = st1.chunks ++ m ∧ b.chunks = st2.chunks ++ m ∧
      a.curR = b.curR ∧ a.curLen = b.curLen ∧ a.buz = b.buz := by
  rw [writeAuto_acc] at h1 h2
  have hc : ({ st1 with chunks := [] } : St) = { st2 with chunks := [] } := by rw [hcore.1, hcore.2.1, hcore.2.2]
  rw [hc] at h1
  -- both are the run from the common core, with their own chunk lists in front
  obtain ⟨t, ht, rfl⟩ := Option.map_eq_some_iff.mp h1
  obtain ⟨t', ht', rfl⟩ := Option.map_eq_some_iff.mp h2
  obtain rfl : t = t' := Option.some.inj (ht.symm.trans ht')
  exact ⟨t.chunks, rfl, rfl, rfl, rfl, rfl⟩

/-- the invariant behind `size_bounds`; `c0` = the chunk list at the start -/
def Bounded (cfg : Cfg) (c0 : List Bytes) (st : St) : Prop :=
  st.curLen ≤ cfg.autoMax ∧ Wf st ∧
  ∃ m, st.chunks = c0 ++ m ∧ ∀ c ∈ m, cfg.autoMin ≤ c.length ∧ c.length ≤ cfg.autoMax

theorem feedAuto_bounds (cfg : Cfg) (c0 : List Bytes) (b : UInt8) (fuel : Nat) (st st' : St) :
    Bounded cfg c0 st → feedAuto cfg fuel st b = some st' → Bounded cfg c0 st' := by
  refine feedAuto_rule cfg b _ _ (fun _ h => h) (fun st ⟨hle, hw, m, hm, hall⟩ hge => ?_)
    (fun st ⟨_, hw, hm⟩ hlt => ⟨hlt, (kept_wf cfg).take st b hw, hm⟩) fuel st st'
  rcases endChunk_cases cfg st false with ⟨he, _⟩ | ⟨he, _⟩ | ⟨he, _⟩ <;> rw [he]
  · exact ⟨hle, hw, m, hm, hall⟩
  · exact ⟨hle, hw, m, hm, hall⟩
  · refine ⟨Nat.zero_le _, rfl, m ++ [st.cur], by simp [hm], fun c hc => ?_⟩
    rcases List.mem_append.mp hc with hc | hc
    · exact hall c hc
    · rw [List.mem_singleton.mp hc, cur_length, ← hw]
      exact ⟨hge, hle⟩

/-- size bounds (automatic mode): every chunk finished while content is written
automatically has `auto_min ≤ size ≤ auto_max`; only the final chunk, forced out by
`zck_close`, may be smaller -/
theorem size_bounds (cfg : Cfg) (hmin : cfg.chunkMin ≤ cfg.autoMin) (hpos : 0 < cfg.autoMax) :
    ∀ (bs : Bytes) (st st' : St), Wf st → st.curLen ≤ cfg.autoMax → writeAuto cfg st bs = some st' →
      st'.curLen ≤ cfg.autoMax ∧ Wf st' ∧
      ∃ m, st'.chunks = st.chunks ++ m ∧ ∀ c ∈ m, cfg.autoMin ≤ c.length ∧ c.length ≤ cfg.autoMax :=
  fun bs st st' hw hle h => writeAuto_inv cfg _ (fun b => feedAuto_bounds cfg st.chunks b _) bs st st' ⟨hle, hw, [], by simp, by simp⟩ h

/-- the effective limits `comp_init` computes are consistent whenever `min ≤ max` (what the option setters enforce) -/
theorem limits_consistent (cfg : Cfg) (h : cfg.chunkMin ≤ cfg.chunkMax) :
    cfg.chunkMin ≤ cfg.autoMin ∧ cfg.autoMin ≤ cfg.autoMax ∧ cfg.autoMax ≤ cfg.chunkMax :=
  ⟨le_autoMin cfg, autoMin_le cfg, autoMax_le cfg h⟩

/-! Non-vacuity (tests): the generated defaults give the documented effective limits -/
example : (Cfg.norm { manual := false, chunkMin := 0, chunkMax := 0 }).autoMin = 8192 ∧
          (Cfg.norm { manual := false, chunkMin := 0, chunkMax := 0 }).autoMax = 131072 := by decide
example : (Cfg.norm { manual := false, chunkMin := 1, chunkMax := 5000 }).autoMin = 5000 := by decide

end Zck.C16
