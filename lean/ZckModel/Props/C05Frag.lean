/-
C05 — the fragmentation law of `dl_write_range` (the single-range path of the write callback), for arbitrary bytes: delivering
`a ++ b` in one call is delivering `a` and then — if `a` was taken completely and a chunk is still open — `b`, with the same state
in every field; otherwise `b` is not looked at.  It is proved once, each call with a fuel of its own, by induction over the call on
`a`; the theorems over lists of fragments, over cutting a delivery that is taken completely, and at the write callback follow.
The multipart path is `C05Multipart.lean`.
-/
import ZckModel.Props.C05

namespace Zck.C05
open Zck.Dl Zck.Copy

/-- `Copy.writeAt_writeAt` under the name C05 cites -/
theorem writeAt_writeAt (f : Bytes) (p : Nat) (a b : Bytes) :
    writeAt (writeAt f p a) (p + a.length) b = writeAt f p (a ++ b) :=
  Copy.writeAt_writeAt f p a b

/-- an open chunk has a hash context: `dlOpen` sets both, `set_chunk_valid` clears both -/
def HashInv (st : St) : Prop := st.writeInChunk > 0 → ∃ acc, st.hash = some acc

theorem hashInv_preserved (e : Env) : Preserved e HashInv where
  frame := fun st st' h _ _ _ hh hw _ => by unfold HashInv; rw [hh, hw]; exact h
  write := fun st x h => by
    refine dlWrite_cases st x (fun _ => h) (fun d hw _ _ hpos => h hw) (fun d acc _ _ _ _ _ => ⟨_, rfl⟩)
  verify := fun st _ hw => ⟨fun hpos => by rw [dlVerify_wic, hw] at hpos; exact absurd hpos (by decide), by rw [dlVerify_wic, hw]⟩
  opens := fun st h _ => by
    rcases dlOpen_spec e st with heq | ⟨_, _, _, _, _, _, heq⟩ <;> rw [heq]
    · exact h
    · exact fun _ => ⟨[], rfl⟩

theorem hashInv_dwr (e : Env) (F : Nat) (st : St) (x : Bytes) (h : HashInv st) : HashInv (dlWriteRange e F st x).2 :=
  pres_dlWriteRange e (hashInv_preserved e) F st x h

/-- an open chunk larger than `a`: `dl_write` takes all of `a` (to `st1`), then `wq > 0` bytes of `b` (to `stq`), and both at once when
given `a ++ b` -/
theorem dlWrite_append (st : St) (a b acc : Bytes) (hw : st.writeInChunk > a.length) (hh : st.hash = some acc)
    (ha : a ≠ []) (hb : b ≠ []) :
    ∃ st1 wq stq, dlWrite st a = (some a.length, st1) ∧ st1.writeInChunk = st.writeInChunk - a.length ∧
      st1.hash = some (acc ++ a) ∧ st1.err = st.err ∧
      dlWrite st1 b = (some wq, stq) ∧ 0 < wq ∧ wq ≤ b.length ∧
      dlWrite st (a ++ b) = (some (a.length + wq), stq) ∧ (a ++ b).drop (a.length + wq) = b.drop wq := by
  have hal : 0 < a.length := List.length_pos_iff.mpr ha
  have hw1 : 0 < st.writeInChunk - a.length := Nat.sub_pos_of_lt hw
  have h1 := dlWrite_taken st a acc (Nat.lt_trans hal hw) hh ha
  rw [List.take_of_length_le (Nat.le_of_lt hw)] at h1
  have h2 := dlWrite_taken { st.wrote a with hash := some (acc ++ a), dlChunkData := st.dlChunkData + a.length } b (acc ++ a)
    hw1 rfl hb
  have hq : 0 < (b.take (st.writeInChunk - a.length)).length ∧ (b.take (st.writeInChunk - a.length)).length ≤ b.length := by
    rw [List.length_take]; exact ⟨Nat.lt_min.mpr ⟨hw1, List.length_pos_iff.mpr hb⟩, Nat.min_le_right _ _⟩
  refine ⟨_, _, _, h1, rfl, rfl, rfl, h2, hq.1, hq.2, ?_, ?_⟩
  · -- written in two pieces or in one, the target is the same
    rw [dlWrite_taken st (a ++ b) acc (Nat.lt_trans hal hw) hh (List.append_ne_nil_of_left_ne_nil ha b),
      show (a ++ b).take st.writeInChunk = a ++ b.take (st.writeInChunk - a.length) by
        rw [List.take_append, List.take_of_length_le (Nat.le_of_lt hw)]]
    show _ = (_, ({ (st.wrote a).wrote (b.take (st.writeInChunk - a.length)) with
      hash := some (acc ++ a ++ b.take (st.writeInChunk - a.length)),
      dlChunkData := st.dlChunkData + a.length + (b.take (st.writeInChunk - a.length)).length } : St))
    rw [St.wrote_wrote, List.length_append, List.append_assoc, Nat.add_assoc]
    rfl
  · rw [List.drop_append]
    simp

/-- how two consecutive deliveries combine into the result of delivering them at once -/
def combine (e : Env) (G : Nat) (a b : Bytes) (p : Nat × St) : Nat × St :=
  if p.1 = a.length ∧ p.2.writeInChunk > 0 ∧ b ≠ [] then bump a.length (dlWriteRange e G p.2 b) else p

theorem bump_combine (e : Env) (G : Nat) (a b : Bytes) (wb : Nat) (p' : Nat × St) (hlt : wb < a.length) :
    bump wb (combine e G (a.drop wb) b p') = combine e G a b (bump wb p') := by
  have hl : a.length = wb + (a.drop wb).length := by rw [List.length_drop]; omega
  generalize a.drop wb = a' at hl
  unfold combine
  by_cases h0 : p'.1 = 0
  · -- the delivery of `a` has failed
    have hb : bump wb p' = (0, p'.2) := if_pos h0
    rw [if_neg (fun h => by omega), hb, if_neg (fun h => by have := h.1; simp only at this; omega)]
  · have hb : bump wb p' = (wb + p'.1, p'.2) := if_neg h0
    rw [hb]
    by_cases hc : p'.1 = a'.length ∧ p'.2.writeInChunk > 0 ∧ b ≠ []
    · rw [if_pos hc, if_pos ⟨by have := hc.1; simp only; omega, hc.2⟩, bump_bump, hl, hc.1]
    · rw [if_neg hc, if_neg (fun h => hc ⟨by have := h.1; simp only at this; omega, h.2⟩), hb]

theorem dlWrite_append_le (st : St) (a b : Bytes) (h : st.writeInChunk ≤ a.length) : dlWrite st (a ++ b) = dlWrite st a := by
  by_cases hw : st.writeInChunk = 0
  · rw [dlWrite_closed _ _ hw, dlWrite_closed _ _ hw]
  · rw [dlWrite_open _ _ (Nat.pos_of_ne_zero hw), dlWrite_open _ _ (Nat.pos_of_ne_zero hw), List.take_append_of_le_length h]

theorem dlWrite_keeps (e : Env) (st st1 : St) (a : Bytes) (wb : Nat) (hw : dlWrite st a = (some wb, st1)) (he : st.err = false)
    (hi : HashInv st) : wb ≤ a.length ∧ st1.err = false ∧ HashInv st1 := by
  have h1 : HashInv st1 := by have := (hashInv_preserved e).write st a hi; rwa [hw] at this
  rcases dlWrite_some st st1 a wb hw with ⟨_, h0, h'⟩ | ⟨_, _, h0, _, _, h'⟩
  · exact ⟨h0 ▸ Nat.zero_le _, h' ▸ he, h1⟩
  · exact ⟨h0, h'.trans he, h1⟩

theorem sel_keeps (e : Env) (st1 : St) (he1 : st1.err = false) (hi1 : HashInv st1) :
    HashInv (sel e st1).2 ∧ ((sel e st1).1 = true → (sel e st1).2.err = false) := by
  refine ⟨?_, fun h => (sel_err e st1 h).trans he1⟩
  unfold sel
  split
  · exact pres_dlSelect e (hashInv_preserved e) st1 hi1 ‹_›
  · exact hi1

/-- the split lemma where the open chunk takes all of `a` and more: the call on `a` ends after its one `dl_write`, the call on `b`
begins with the write that the call on `a ++ b` makes in one -/
theorem dwr_append_open (e : Env) (hr : e.ridx.isEmpty = false) (F F2 G : Nat) (st : St) (a b : Bytes)
    (hF2 : dneed st (a ++ b) ≤ F2 + 1) (hG : 2 * b.length + 1 ≤ G) (ha : a ≠ []) (hb : b ≠ []) (he : st.err = false)
    (hi : HashInv st) (hbig : st.writeInChunk > a.length) :
    dlWriteRange e (F2 + 1) st (a ++ b) = combine e G a b (dlWriteRange e (F + 1) st a) := by
  have hal : 0 < a.length := List.length_pos_iff.mpr ha
  obtain ⟨acc, hacc⟩ := hi (Nat.lt_trans hal hbig)
  obtain ⟨st1, wq, stq, h1, hw1, _, he1, h2, hq0, hq1, h3, hdrop⟩ := dlWrite_append st a b acc hbig hacc ha hb
  obtain ⟨G', rfl⟩ := Nat.exists_eq_add_of_le' (Nat.le_trans (Nat.le_add_left 1 _) hG)
  have hw1p : 0 < st1.writeInChunk := hw1 ▸ Nat.sub_pos_of_lt hbig
  have hca : cont e F a.length st1 a = (a.length, st1) := by
    unfold cont sel; simp [Nat.ne_of_gt hw1p]
  rw [dwr_step e F st st1 a _ he hr h1, hca, dwr_step e F2 st stq _ _ he hr h3]
  unfold combine
  rw [if_pos ⟨rfl, hw1p, hb⟩, dwr_step e G' st1 stq b wq (he1.trans he) hr h2]
  unfold cont
  generalize sel e stq = r
  rw [hdrop]
  have hc : (r.2.writeInChunk > 0 ∧ a.length + wq < (a ++ b).length) ↔ (r.2.writeInChunk > 0 ∧ wq < b.length) := by
    rw [List.length_append]; exact and_congr_right fun _ => Nat.add_lt_add_iff_left
  simp only [hc]
  by_cases hok : r.1 = true
  · by_cases hrec : r.2.writeInChunk > 0 ∧ wq < b.length
    · have hd1 : dneed r.2 (b.drop wq) ≤ F2 := hdrop ▸ dneed_step h3 hrec.1 hF2
      have hd2 : dneed r.2 (b.drop wq) ≤ G' :=
        dneed_step h2 hrec.1 (by rw [dneed_open st1 b hw1p]; exact hG)
      simp only [hok, hrec, and_self, not_true_eq_false, ↓reduceIte]
      rw [dwr_fuel e F2 G' _ _ hd1 hd2, bump_bump]
    · simp only [hok, hrec, not_true_eq_false, ↓reduceIte, bump, Nat.ne_of_gt hq0]
  · simp only [hok, Bool.false_eq_true, not_false_eq_true, ↓reduceIte, bump]

/-- the split lemma, each of the three calls with its own fuel; by induction over the call on `a` -/
theorem dwr_append (e : Env) (hr : e.ridx.isEmpty = false) : ∀ (F : Nat) (st : St) (a b : Bytes) (F2 G : Nat),
    dneed st a ≤ F → dneed st (a ++ b) ≤ F2 → 2 * b.length + 1 ≤ G → a ≠ [] → b ≠ [] → st.err = false → HashInv st →
    dlWriteRange e F2 st (a ++ b) = combine e G a b (dlWriteRange e F st a)
  | 0, st, a, b, _, _, hF, _, _, _, _, _, _ => absurd hF (Nat.not_le_of_gt (dneed_pos))
  | _, st, a, b, 0, _, _, hF2, _, _, _, _, _ => absurd hF2 (Nat.not_le_of_gt (dneed_pos))
  | F + 1, st, a, b, F2 + 1, G, hF, hF2, hG, ha, hb, he, hi => by
    have hal : 0 < a.length := List.length_pos_iff.mpr ha
    have hbl : 0 < b.length := List.length_pos_iff.mpr hb
    by_cases hbig : st.writeInChunk > a.length
    · exact dwr_append_open e hr F F2 G st a b hF2 hG ha hb he hi hbig
    · -- the first `dl_write` is the same for `a` and `a ++ b`
      have hle : st.writeInChunk ≤ a.length := Nat.le_of_not_lt hbig
      rw [dwr_succ e F st a, dwr_succ e F2 st (a ++ b), dlWrite_append_le st a b hle]
      simp only [he, hr, Bool.false_eq_true, ↓reduceIte]
      cases hw : dlWrite st a with
      | mk o st1 =>
        cases o with
        | none => simp only [combine, Nat.ne_of_lt hal, false_and, ↓reduceIte]
        | some wb =>
          dsimp only
          have hwab : dlWrite st (a ++ b) = (some wb, st1) := by rw [dlWrite_append_le st a b hle, hw]
          have hs := dlWrite_keeps e st st1 a wb hw he hi
          have hk := sel_keeps e st1 hs.2.1 hs.2.2
          unfold cont
          generalize sel e st1 = r at hk
          by_cases hok : r.1 = true
          · by_cases hw2 : r.2.writeInChunk > 0
            · by_cases hlt : wb < a.length
              · -- both calls go on with what is left of `a`
                have hne : a.drop wb ≠ [] := fun h => Nat.not_le_of_gt hlt (List.drop_eq_nil_iff.mp h)
                have hlab : wb < (a ++ b).length := List.length_append ▸ Nat.lt_add_right _ hlt
                simp only [hok, hw2, hlt, hlab, and_self,
                  not_true_eq_false, ↓reduceIte]
                rw [List.drop_append_of_le_length hs.1,
                  dwr_append e hr F r.2 (a.drop wb) b F2 G (dneed_step hw hw2 hF)
                    (by have := dneed_step hwab hw2 hF2; rwa [List.drop_append_of_le_length hs.1] at this)
                    hG hne hb (hk.2 hok) hk.1]
                exact bump_combine e G a b wb _ hlt
              · -- `a` is used up with a chunk open: `b` is next
                have hwa : wb = a.length := Nat.le_antisymm hs.1 (Nat.le_of_not_lt hlt)
                subst hwa
                have hlab : a.length < (a ++ b).length := List.length_append ▸ Nat.lt_add_of_pos_right hbl
                simp only [hok, hw2, Nat.lt_irrefl, hlab,
                  and_self, and_false, not_true_eq_false, ↓reduceIte, List.drop_left, combine, hb, ne_eq, not_false_eq_true]
                rw [dwr_fuel e F2 G r.2 b (by have := dneed_step hwab hw2 hF2; rwa [List.drop_left] at this)
                  (by rw [dneed_open r.2 b hw2]; exact hG)]
            · simp only [hok, hw2, false_and, and_false, not_true_eq_false, ↓reduceIte, combine]
          · simp only [hok, Bool.false_eq_true, not_false_eq_true, ↓reduceIte, combine, Nat.ne_of_lt hal, false_and]

/-- C05 (split lemma): `dl_write_range` on `a ++ b` = on `a`, then on `b` if `a` was taken completely and a chunk is still open;
otherwise `b` is not looked at -/
theorem dwr_split (e : Env) (hr : e.ridx.isEmpty = false) (st : St) (a b : Bytes) (G : Nat) (ha : a ≠ [])
    (hfuel : 2 * (a.length + b.length) + 2 ≤ G + 1) (he : st.err = false) (hi : HashInv st) :
    dlWriteRange e (G + 1) st (a ++ b) = combine e (G + 1) a b (dlWriteRange e (G + 1) st a) := by
  by_cases hb : b = []
  · subst hb; simp [combine]
  · exact dwr_append e hr (G + 1) st a b (G + 1) (G + 1) (Nat.le_trans (dneed_le st a) (by omega))
      (Nat.le_trans (dneed_le st (a ++ b)) (by rw [List.length_append]; exact hfuel)) (by omega) ha hb he hi

/-- each fragment is taken completely and leaves a chunk open; `chainEnd` is the context behind them -/
def ChainOk (e : Env) (G : Nat) : St → List Bytes → Prop
  | _, [] => True
  | st, f :: rest =>
    (dlWriteRange e G st f).1 = f.length ∧ (dlWriteRange e G st f).2.writeInChunk > 0 ∧ ChainOk e G (dlWriteRange e G st f).2 rest

def chainEnd (e : Env) (G : Nat) : St → List Bytes → St
  | st, [] => st
  | st, f :: rest => chainEnd e G (dlWriteRange e G st f).2 rest

theorem dwr_frags (e : Env) (hr : e.ridx.isEmpty = false) (G : Nat) : ∀ (fs : List Bytes) (st : St) (last : Bytes),
    (∀ f ∈ fs, f ≠ []) → last ≠ [] → 2 * (fs.flatten.length + last.length) + 2 ≤ G + 1 → st.err = false → HashInv st →
    ChainOk e (G + 1) st fs →
    dlWriteRange e (G + 1) st (fs.flatten ++ last) =
      bump fs.flatten.length (dlWriteRange e (G + 1) (chainEnd e (G + 1) st fs) last)
  | [], st, last, _, _, _, _, _, _ => (bump_zero _).symm
  | f :: rest, st, last, hne, hl, hfuel, he, hi, ⟨c1, c2, c3⟩ => by
    have hf : f ≠ [] := hne f List.mem_cons_self
    rw [List.flatten_cons, List.length_append] at hfuel
    rw [List.flatten_cons, List.append_assoc,
      dwr_split e hr st f (rest.flatten ++ last) G hf (by rw [List.length_append]; omega) he hi]
    unfold combine
    rw [if_pos ⟨c1, c2, List.append_ne_nil_of_right_ne_nil _ hl⟩,
      dwr_frags e hr G rest (dlWriteRange e (G + 1) st f).2 last (fun g hg => hne g (List.mem_cons_of_mem _ hg)) hl
        (by omega) ((dwr_out e (G + 1) st f).2 (c1 ▸ Nat.ne_of_gt (List.length_pos_iff.mpr hf))) (hashInv_dwr e (G + 1) st f hi) c3,
      bump_bump, List.length_append]
    rfl

/-- C05 (fragmentation independence, single-range path): for any bytes and any cutting of them into non-empty fragments
`fs ++ [last]` of which each but the last is taken completely and leaves a chunk open (`ChainOk`; every cut of a well-formed payload
is such a cut), one call with all the bytes ends in exactly the state of the fragment-by-fragment delivery, and is refused exactly
when the last fragment is -/
theorem dwr_frags_state (e : Env) (hr : e.ridx.isEmpty = false) (G : Nat) (fs : List Bytes) (st : St) (last : Bytes)
    (hne : ∀ f ∈ fs, f ≠ []) (hl : last ≠ []) (hfuel : 2 * (fs.flatten.length + last.length) + 2 ≤ G + 1)
    (he : st.err = false) (hi : HashInv st) (hc : ChainOk e (G + 1) st fs) :
    (dlWriteRange e (G + 1) st (fs.flatten ++ last)).2 = (dlWriteRange e (G + 1) (chainEnd e (G + 1) st fs) last).2 ∧
    ((dlWriteRange e (G + 1) st (fs.flatten ++ last)).1 = 0 ↔ (dlWriteRange e (G + 1) (chainEnd e (G + 1) st fs) last).1 = 0) := by
  rw [dwr_frags e hr G fs st last hne hl hfuel he hi hc]
  exact ⟨bump_snd _ _, bump_zero_iff _ _⟩

/-- a delivery that is taken completely can be cut anywhere: the first piece is taken completely and leaves a chunk open, the second
ends in exactly the state of the whole -/
theorem dwr_cut (e : Env) (st : St) (a b : Bytes) (F F1 F2 : Nat) (ha : a ≠ []) (hb : b ≠ []) (he : st.err = false) (hi : HashInv st)
    (hF : 2 * (a ++ b).length + 2 ≤ F) (hF1 : 2 * a.length + 2 ≤ F1) (hF2 : 2 * b.length + 2 ≤ F2)
    (ht : (dlWriteRange e F st (a ++ b)).1 = (a ++ b).length) :
    (dlWriteRange e F1 st a).1 = a.length ∧ (dlWriteRange e F1 st a).2.writeInChunk > 0 ∧
    (dlWriteRange e F2 (dlWriteRange e F1 st a).2 b).1 = b.length ∧
    (dlWriteRange e F2 (dlWriteRange e F1 st a).2 b).2 = (dlWriteRange e F st (a ++ b)).2 := by
  have hr := dwr_ridx e F st (a ++ b)
    (ht ▸ Nat.ne_of_gt (List.length_pos_iff.mpr (List.append_ne_nil_of_left_ne_nil ha b)))
  have hbl : 0 < b.length := List.length_pos_iff.mpr hb
  have hsp := dwr_append e hr F1 st a b F F2 (Nat.le_trans (dneed_le st a) hF1) (Nat.le_trans (dneed_le st (a ++ b)) hF)
    (Nat.le_trans (Nat.le_succ _) hF2) ha hb he hi
  have hle := (dwr_out e F1 st a).1
  generalize dlWriteRange e F1 st a = p at hsp hle
  rw [hsp, List.length_append] at ht
  rw [hsp]
  unfold combine at ht ⊢
  by_cases hc : p.1 = a.length ∧ p.2.writeInChunk > 0 ∧ b ≠ []
  · rw [if_pos hc] at ht ⊢
    generalize dlWriteRange e F2 p.2 b = q at ht ⊢
    unfold bump at ht ⊢
    by_cases hq : q.1 = 0
    · rw [if_pos hq] at ht; exact absurd ht.symm (Nat.ne_of_gt (Nat.add_pos_right _ hbl))
    · rw [if_neg hq] at ht ⊢
      exact ⟨hc.1, hc.2.1, Nat.add_left_cancel ht, rfl⟩
  · rw [if_neg hc] at ht
    exact absurd (ht ▸ hle) (Nat.not_le_of_gt (Nat.lt_add_of_pos_right hbl))

/-- a non-empty delivery that finds a chunk open and no hash context is refused by `dl_write`, so it is not taken completely -/
theorem hashInv_of_taken (e : Env) (F : Nat) (st : St) (x : Bytes) (hx : x ≠ []) (h : (dlWriteRange e F st x).1 = x.length) :
    HashInv st := by
  intro hw
  cases hh : st.hash with
  | some acc => exact ⟨acc, rfl⟩
  | none =>
    have hx := List.length_pos_iff.mpr hx
    have : (dlWriteRange e F st x).1 = 0 := by
      cases F with
      | zero => rfl
      | succ F =>
        obtain ⟨s', hwr⟩ : ∃ s', dlWrite st x = (none, s') := by
          rw [dlWrite_open st x hw, hh]; dsimp only; split <;> exact ⟨_, rfl⟩
        rw [dwr_succ, hwr]
        split
        · rfl
        split <;> rfl
    omega

/-- the byte counter of the callback, which nothing looks at -/
def setDl (n : Nat) (s : St) : St := { s with dlBytes := n }

theorem dwr_setDl (e : Env) (n : Nat) (F : Nat) (s : St) (x : Bytes) :
    dlWriteRange e F (setDl n s) x = ((dlWriteRange e F s x).1, setDl n (dlWriteRange e F s x).2) :=
  dwr_update e (setDl n) (fun _ => rfl) (fun _ _ => rfl) F s x

theorem writeChunkCb_single (e : Env) (s : St) (b : Bytes) (hb : s.boundary = none) :
    writeChunkCb e s b = (if (dlWriteRange e (2 * b.length + 2) s b).1 = 0 then 0 else b.length,
      setDl (s.dlBytes + b.length) (dlWriteRange e (2 * b.length + 2) s b).2) := by
  unfold writeChunkCb
  have h1 : ({ s with dlBytes := s.dlBytes + b.length } : St) = setDl (s.dlBytes + b.length) s := rfl
  simp only [h1]
  rw [hb]
  rw [dwr_setDl]

theorem single_feed_steps (e : Env) (stop clear : Bool) : ∀ (fs : List Bytes) (st : St) (n : Nat) (acc : List Nat),
    st.boundary = none → st.err = false → HashInv st → (∀ f ∈ fs, f ≠ []) →
    (dlWriteRange e (2 * fs.flatten.length + 2) st fs.flatten).1 = fs.flatten.length →
    feed e stop clear (setDl n st) fs acc =
      (acc.reverse ++ fs.map List.length,
       if fs = [] then setDl n st else setDl (n + fs.flatten.length) (dlWriteRange e (2 * fs.flatten.length + 2) st fs.flatten).2)
  | [], st, n, acc, _, _, _, _, _ => by simp [feed]
  | f :: fs, st, n, acc, hb, he, hi, hne, ht => by
    have hf : f ≠ [] := hne f List.mem_cons_self
    have hfl : 0 < f.length := List.length_pos_iff.mpr hf
    have hbs : (setDl n st).boundary = none := hb
    unfold feed
    rw [writeChunkCb_single e (setDl n st) f hbs, dwr_setDl]
    simp only [List.flatten_cons] at ht ⊢
    -- stated for any `s`: with the result of `dlWriteRange` in its place the unifier unfolds that function
    have hsd : ∀ s, setDl ((setDl n st).dlBytes + f.length) (setDl n s) = setDl (n + f.length) s := fun _ => rfl
    by_cases hfs : fs = []
    · subst hfs
      simp only [List.flatten_nil, List.append_nil] at ht ⊢
      rw [ht]
      simp only [Nat.ne_of_gt hfl, ↓reduceIte, ne_eq, not_true_eq_false, false_and]
      simp [feed]
      exact hsd _
    · have hrne : fs.flatten ≠ [] := fun h => by
        obtain ⟨g, hg⟩ := List.exists_mem_of_ne_nil fs hfs
        exact hne g (List.mem_cons_of_mem _ hg) (List.flatten_eq_nil_iff.1 h g hg)
      have hcut := dwr_cut e st f fs.flatten (2 * (f ++ fs.flatten).length + 2) (2 * f.length + 2) (2 * fs.flatten.length + 2) hf hrne he hi
        (Nat.le_refl _) (Nat.le_refl _) (Nat.le_refl _) ht
      rw [hcut.1]
      simp only [Nat.ne_of_gt hfl, ↓reduceIte, ne_eq, not_true_eq_false, false_and]
      rw [hsd]
      rw [single_feed_steps e stop clear fs (dlWriteRange e (2 * f.length + 2) st f).2 (n + f.length) (f.length :: acc)
        (by rw [dwr_boundary]; exact hb) ((dwr_out e _ st f).2 (by rw [hcut.1]; exact Nat.ne_of_gt hfl)) (hashInv_dwr e _ st f hi)
        (fun g hg => hne g (List.mem_cons_of_mem _ hg)) hcut.2.2.1]
      rw [if_neg hfs, hcut.2.2.2]
      simp [List.append_assoc, Nat.add_assoc]

/-- C05 (fragmentation independence, single-range path, at the write callback): a body that `dl_write_range` takes completely
when it is delivered whole is accepted fragment by fragment under every partition into non-empty callback invocations, and the
context at the end is exactly the one after the single call -/
theorem single_feed_indep (e : Env) (stop clear : Bool) (st : St) (fs : List Bytes)
    (hb : st.boundary = none) (he : st.err = false) (hi : HashInv st) (hne : ∀ f ∈ fs, f ≠ []) (hfs : fs ≠ [])
    (ht : (dlWriteRange e (2 * fs.flatten.length + 2) st fs.flatten).1 = fs.flatten.length) :
    feed e stop clear st fs [] = (fs.map List.length,
      setDl (st.dlBytes + fs.flatten.length) (dlWriteRange e (2 * fs.flatten.length + 2) st fs.flatten).2) := by
  have h := single_feed_steps e stop clear fs st st.dlBytes [] hb he hi hne ht
  have hst : setDl st.dlBytes st = st := rfl
  rw [hst, if_neg hfs] at h
  simpa using h

/-- a fresh download context satisfies the hypotheses -/
example (f : Bytes) (v : List Int) : ({ file := f, pos := 0, valid := v } : St).err = false ∧ HashInv { file := f, pos := 0, valid := v } :=
  ⟨rfl, fun h => by simp at h⟩

/-- non-vacuity of `dwr_frags_state`: on the toy session (end of `C05.lean`) the cut after two bytes, inside the first
chunk, is such a cut, and one call with all five bytes ends in the state of the two-call delivery -/
example : ChainOk C17.toyEnv 13 C17.toySt [[1, 2]] ∧
    (dlWriteRange C17.toyEnv 13 C17.toySt ([[1, 2]].flatten ++ [3, 4, 5])).2.file = [9, 9, 9, 9, 9, 9, 1, 2, 3, 4, 5] := by
  unfold ChainOk ChainOk
  decide +kernel

end Zck.C05
