/-
C13 — Reported metadata equals the file's; unrepresentable values are rejected.
About the model of the header reader (`Header.lean`), for every input: offsets are running sums without wrap-around, the count
equals the number of chunks and is at least one, every numeric field that does not fit its destination is rejected, and the
whole parse never reads outside the header buffer.  That the report equals what the independent reference parser
(`Format.parse`) reads is `Props/C13Parse.lean`; on the implementation's output the driver evaluates it (`PredHdr.c13_ok`).
-/
import ZckModel.HeaderLemmas
import ZckModel.Props.Run

namespace Zck.C13
open Zck.Header Zck.Compint

/-- offsets (`index_read` loop): on success the entries are numbered consecutively, each
start is the exact running sum of the stored sizes before it (no wrap: everything stays below
2^63 together with the header), and every uncompressed size fits a signed 64-bit value. -/
theorem entryLoop_run (hb : Bytes) (base size limit cs : Nat) (withU : Bool) (hdrTotal : Nat) :
    ∀ (fuel length count idxLoc : Nat) (chunks : List Format.Chunk) (endLen total : Nat),
      idxLoc + hdrTotal ≤ 2^63 - 1 →
      entryLoop hb base size limit cs withU hdrTotal fuel length count idxLoc = .ok (chunks, endLen, total) →
      RunFrom count idxLoc chunks ∧ total = idxLoc + sumLen chunks ∧ total + hdrTotal ≤ 2^63 - 1 ∧
      (∀ c ∈ chunks, c.len ≤ 2^63 - 1)
  | 0, length, count, idxLoc, chunks, endLen, total, h0, h => by
    obtain ⟨-, h⟩ := (entryLoop_zero ..).mp h
    cases h
    exact ⟨trivial, rfl, h0, nofun⟩
  | fuel + 1, length, count, idxLoc, chunks, endLen, total, h0, h => by
    rcases (entryLoop_succ ..).mp h with ⟨-, h⟩ | ⟨-, -, -, u, length2, -, cl, n1, -, -, hb1, ln, n2, -, hb2, rest, _, _, hrec, h⟩
    · cases h
      exact ⟨trivial, rfl, h0, nofun⟩
    · cases h
      obtain ⟨r1, r2, r3, r4⟩ := entryLoop_run hb base size limit cs withU hdrTotal fuel _ _ _ rest _ _ (by omega) hrec
      refine ⟨⟨rfl, rfl, r1⟩, by simp only [sumLen]; omega, r3, ?_⟩
      intro c hc
      rcases List.mem_cons.mp hc with rfl | hc
      · exact hb2
      · exact r4 c hc

/-- C13 (index): what `read_index` accepts: the count claimed by the file equals the number
of chunks reachable by iteration and is at least one (the dictionary entry); numbers and start
offsets are exact running sums; header length + data length fits a signed 64-bit value. -/
theorem readIndex_sound (hb : Bytes) (l : Lead) (p : Pre) (x : Idx) (h : readIndex hb l p = .ok x)
    (hh : l.leadSize + l.headerLen ≤ 2^63 - 1) :
    x.count = x.chunks.length ∧ 1 ≤ x.chunks.length ∧ RunFrom 0 0 x.chunks ∧
    x.length = sumLen x.chunks ∧ l.leadSize + l.headerLen + x.length ≤ 2^63 - 1 ∧
    (∀ c ∈ x.chunks, c.len ≤ 2^63 - 1) := by
  obtain ⟨-, cht, n1, -, cs, -, cnt, n2, -, chunks, endLen, total, hloop, -, hc, hne, rfl⟩ := (readIndex_eq_ok hb l p x).mp h
  obtain ⟨r1, r2, r3, r4⟩ := entryLoop_run hb _ _ _ _ _ _ _ _ _ _ chunks endLen total (by omega) hloop
  exact ⟨hc, by show 1 ≤ chunks.length; omega, r1, r2.trans (Nat.zero_add _), by show _ + total ≤ _; omega, r4⟩

/-- an `int`-sized field (checksum types, compression type, index size, signature count) that
does not fit a non-negative `int` is rejected, never narrowed -/
theorem int_field_fits (m : Bytes) (pos maxLen v n : Nat) (hm : maxLen ≤ m.length)
    (h : decInt m pos maxLen = .ok (v, n)) : v < 2^31 ∧ n ≤ 10 := by
  rw [C20.decInt_eq_spec hm, C20.specDec_eq_ok] at h
  exact ⟨h.2.2, h.2.1⟩

/-- C13 (memory): opening never reads outside the header buffer, for every byte string -/
theorem open_in_bounds (H : HashFn) (f : Bytes) (i : Nat) : openFile H f ≠ .oob i :=
  openFile_noOob H f i

/-- C13 (report): after a successful open the reported count is the number of chunks (≥ 1),
start offsets are running sums, and header + data length fits `ssize_t` -/
theorem open_sound (H : HashFn) (f : Bytes) (h : Format.Hdr) (hok : openFile H f = .ok h)
    (hsmall : h.lead + h.headerLen ≤ 2^63 - 1) :
    h.count = h.chunks.length ∧ 1 ≤ h.chunks.length ∧ RunFrom 0 0 h.chunks ∧
    h.dataLen = sumLen h.chunks ∧ h.lead + h.headerLen + h.dataLen ≤ 2^63 - 1 := by
  obtain ⟨l, hb, p, x, _, _, _, hx, _, rfl⟩ := (openFile_eq_ok H f h).1 hok
  obtain ⟨a, b, c, d, e, _⟩ := readIndex_sound hb l p x hx hsmall
  exact ⟨a, b, c, d, e⟩

/-! Non-vacuity (test): a concrete index of three entries with running numbers and start offsets. -/
example : RunFrom 0 0 [⟨0, [], none, 0, 0, 0⟩, ⟨1, [1], none, 5, 9, 0⟩, ⟨2, [2], none, 7, 7, 5⟩] := by
  simp [RunFrom]

end Zck.C13
