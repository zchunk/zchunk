/-
C02 / C18 — the concrete checksum functions return digests of the sizes the format gives for their types (`zckHash_len`), so the
hypothesis `HashLen` of `Props/C02Decode.lean` / `Props/C01Written.lean` is discharged for the model's own SHA-1 / SHA-256 / SHA-512 /
SHA-512-128, and `open_read_decodes` holds for them without it (`open_read_decodes_sha`).
-/
import ZckModel.Sha.Lemmas
import ZckModel.Props.C02Full

namespace Zck.Sha
open Zck.Format

theorem zckHash_len : Stream.HashLen zckHash := by
  intro t bs d h
  unfold zckHash at h
  split at h
  · simp only [Option.some.injEq] at h; subst h; simp [hsize, hash1_len]
  · simp only [Option.some.injEq] at h; subst h; simp [hsize, hash256_len]
  · simp only [Option.some.injEq] at h; subst h; simp [hsize, hash512_len]
  · simp only [Option.some.injEq] at h; subst h; simp [hsize, hash512_len]
  · cases h

end Zck.Sha

namespace Zck.Stream
open Zck.Format Zck.Reader

theorem open_read_decodes_sha (D : Decomp) (f : Bytes) (h : Hdr) (hsmall : f.length < 2^63)
    (hopen : Header.openFile Sha.zckHash f = .ok h)
    (hdz : ∀ d, h.chunks.head? = some d → d.compLen = 0 → d.len = 0 → (hsize h.chunkHashType).map zeros = some d.digest)
    (hlz : ∀ c ∈ h.chunks, c.len = 0 → c.compLen = 0)
    (init : List Nat) (nl : Nat)
    (hall : ∀ r ∈ (reads Sha.zckHash D f (openCtx h) init).1, 0 ≤ r.ret)
    (hlast : 0 ≤ (compRead Sha.zckHash D f (reads Sha.zckHash D f (openCtx h) init).2 nl).1.ret)
    (hshort : (compRead Sha.zckHash D f (reads Sha.zckHash D f (openCtx h) init).2 nl).1.ret < nl)
    (hclose : close Sha.zckHash (compRead Sha.zckHash D f (reads Sha.zckHash D f (openCtx h) init).2 nl).2 = true) :
    decodeAny Sha.zckHash D f =
      some (outOf (reads Sha.zckHash D f (openCtx h) init).1 ++
        (compRead Sha.zckHash D f (reads Sha.zckHash D f (openCtx h) init).2 nl).1.bytes) :=
  open_read_decodes Sha.zckHash D f h Sha.zckHash_len hsmall hopen hdz hlz init nl hall hlast hshort hclose

end Zck.Stream
