/-
C01 — round trip, the chunker's part.  For every configuration with legal limits and every sequence of write / end-of-chunk
calls, manual or automatic, a successful close neither loses, duplicates nor reorders bytes: the data chunks, concatenated in order,
are the bytes written (`W_structure`).  That none of them is empty, which `Props/C01Close.lean` asks of the data chunks, is
`Writer.closeChunks_nonempty` in WriterLemmas; that the calls and the close complete (the model's re-examination loop carries fuel)
is `Props/C16Term.lean`; that the file `zck_close` makes of these chunks reads back is `Props/C01Written.lean` and
`Props/C01Close.lean`.
-/
import ZckModel.WriterLemmas

namespace Zck.C01
open Zck.Writer

/-- what holds between API calls: the counter is exact and, in manual mode, the chunk under construction is within `chunk_max`
(a manual write relies on it: a chunk it fills up to `chunk_max` is then never refused) -/
def J (cfg : Cfg) (st : St) : Prop := Wf st ∧ (cfg.manual = true → st.curLen ≤ cfg.chunkMax)

def opBytes : Op → Bytes
  | .write bs => bs
  | .endChunk => []

theorem applyOp_content (cfg : Cfg) (hl : Legal cfg) (st st' : St) (op : Op) (hj : J cfg st)
    (h : applyOp cfg st op = some st') : content st' = content st ++ opBytes op ∧ J cfg st' := by
  have hw := kept_applyOp (kept_wf cfg) st st' op hj.1 h
  cases op with
  | endChunk =>
    obtain rfl := Option.some.inj h
    exact ⟨by rw [endChunk_content]; exact (List.append_nil _).symm, hw,
      fun hm => Nat.le_trans (endChunk_curLen_le cfg st false) (hj.2 hm)⟩
  | write bs =>
    cases hm : cfg.manual with
    | false =>
      rw [applyOp_auto st bs hm] at h
      exact ⟨writeAuto_content cfg bs st st' h, hw, fun hm' => by rw [hm] at hm'; cases hm'⟩
    | true =>
      rw [applyOp_manual st bs hm] at h
      obtain rfl := Option.some.inj h
      split
      · rename_i he
        exact ⟨by rw [he]; exact (List.append_nil _).symm, hj⟩
      · -- `|bs| + 1` rounds: one more than bytes, for a chunk that is full already
        obtain ⟨c, m⟩ := writeManual_content cfg hl (bs.length + 1) st bs (hj.2 hm)
          (by split <;> omega)
        exact ⟨c, by rwa [if_neg ‹_›] at hw, fun _ => m⟩

theorem run_content (cfg : Cfg) (hl : Legal cfg) : ∀ (ops : List Op) (st st' : St), J cfg st →
    run cfg st ops = some st' → content st' = content st ++ written ops ∧ J cfg st'
  | [], st, st', hj, h => by
    simp only [run, Option.some.injEq] at h; subst h; exact ⟨by simp [written], hj⟩
  | op :: ops, st, st', hj, h => by
    obtain ⟨s, ha, h⟩ := run_cons_eq_some.mp h
    obtain ⟨c1, j1⟩ := applyOp_content cfg hl st s op hj ha
    obtain ⟨c2, j2⟩ := run_content cfg hl ops s st' j1 h
    refine ⟨?_, j2⟩
    rw [c2, c1, List.append_assoc]
    cases op <;> rfl

/-- C01 (structure): if the calls and the close complete, the data chunks of the file, concatenated in order, are exactly the
bytes that were written; not even a final chunk below the minimum size is lost. -/
theorem W_structure (cfg : Cfg) (hl : Legal cfg.norm) (ops : List Op) (cs : List Bytes)
    (h : closeChunks cfg ops = some cs) : cs.flatten = written ops := by
  obtain ⟨st, hr, rfl⟩ := closeChunks_some h
  obtain ⟨c1, j1⟩ := run_content cfg.norm hl ops {} st ⟨wf_init, fun _ => Nat.zero_le _⟩ hr
  have := endChunk_content cfg.norm st true
  rw [c1, content, endChunk_force_cur cfg.norm st j1.1, List.append_nil] at this
  simpa [content, St.cur] using this

theorem defaults_legal : Legal (Cfg.norm { manual := false, chunkMin := 0, chunkMax := 0 }) := by
  unfold Legal; decide

/-! Non-vacuity (tests): a manual write crossing the maximum twice, and a final chunk below the minimum -/
example : closeChunks { manual := true, chunkMin := 3, chunkMax := 4 } [.write [1,2,3,4,5,6,7,8,9], .endChunk, .write [10]]
    = some [[1,2,3,4], [5,6,7,8], [9, 10]] := by decide +kernel
example : closeChunks { manual := true, chunkMin := 5, chunkMax := 100 } [.write [1,2]] = some [[1,2]] := by decide +kernel

end Zck.C01
