/-
C02 / C13 — the whole read path of the model against the independent reference decoder, from the bytes of the file:

`open_read_decodes`: if the model of `zck_init_read` accepts `f`, any sequence of reads (any buffer sizes) all succeed, the last
one comes up short and `zck_close` succeeds, then `Format.decodeAny` — the reference parser followed by the reference decoder,
both written from the format text — accepts `f` and yields exactly the bytes the reads handed out.  `hsmall : f.length < 2^63`
comes from the parser comparison (`C13P.openFile_parse`): the library reports sizes through `ssize_t`.
-/
import ZckModel.Props.C13Parse
import ZckModel.Props.C02Decode

namespace Zck.Stream
open Zck.Format Zck.Reader

theorem open_read_decodes (H : HashFn) (D : Decomp) (f : Bytes) (h : Hdr) (hH : HashLen H) (hsmall : f.length < 2^63)
    (hopen : Header.openFile H f = .ok h)
    (hdz : ∀ d, h.chunks.head? = some d → d.compLen = 0 → d.len = 0 → (hsize h.chunkHashType).map zeros = some d.digest)
    (hlz : ∀ c ∈ h.chunks, c.len = 0 → c.compLen = 0)
    (init : List Nat) (nl : Nat)
    (hall : ∀ r ∈ (reads H D f (openCtx h) init).1, 0 ≤ r.ret)
    (hlast : 0 ≤ (compRead H D f (reads H D f (openCtx h) init).2 nl).1.ret)
    (hshort : (compRead H D f (reads H D f (openCtx h) init).2 nl).1.ret < nl)
    (hclose : close H (compRead H D f (reads H D f (openCtx h) init).2 nl).2 = true) :
    decodeAny H D f =
      some (outOf (reads H D f (openCtx h) init).1 ++ (compRead H D f (reads H D f (openCtx h) init).2 nl).1.bytes) := by
  have hlen := C13P.openFile_len H f h hopen
  obtain ⟨_, hone, hrun, hdl, _⟩ := C13.open_sound H f h hopen (by omega)
  have hne : h.chunks ≠ [] := by
    intro hnil; rw [hnil] at hone; simp at hone
  rw [decodeAny_eq H D f h (C13P.openFile_parse H f h hsmall hopen)]
  exact stream_decodes hH hrun hdl hne hdz hlz init nl hall hlast hshort hclose

/-! non-vacuity: a complete file, byte by byte — the parser model opens it, the reads succeed, `open_read_decodes` applies -/

def exDd : Bytes := [1, 2, 3, 9, 8] ++ zeros 11
def exD1 : Bytes := [1, 2, 3] ++ zeros 13
def exD2 : Bytes := [9, 8] ++ zeros 14
def exIdx : Bytes := [0x83, 0x83] ++ (zeros 16 ++ [0x80, 0x80]) ++ (exD1 ++ [0x83, 0x83]) ++ (exD2 ++ [0x82, 0x82])
def exHeader : Bytes := exDd ++ [0x80, 0x80, 0xB8] ++ exIdx ++ [0x80]
def exHd : Bytes := [0, 0x5A, 0x43, 0x4B, 0x31, 0x83, 0xCC, 1, 2, 3, 9, 8, 0, 0, 0, 0]
def exFile : Bytes := magicFile ++ [0x83, 0xCC] ++ exHd ++ exHeader ++ [1, 2, 3, 9, 8]
def exHdr2 : Hdr :=
  { detached := false, hashType := 3, chunkHashType := 3, flags := 0, compType := 0, lead := 23, headerLen := 76,
    headerDigest := exHd, dataDigest := exDd, count := 3,
    chunks := [⟨0, zeros 16, none, 0, 0, 0⟩, ⟨1, exD1, none, 3, 3, 0⟩, ⟨2, exD2, none, 2, 2, 3⟩], dataLen := 5 }

theorem exOpen : Header.openFile exH exFile = .ok exHdr2 := by decide +kernel

example : parse exH exFile = some exHdr2 := C13P.openFile_parse exH exFile exHdr2 (by decide +kernel) exOpen

example : decodeAny exH exD exFile = some [1, 2, 3, 9, 8] :=
  open_read_decodes exH exD exFile exHdr2 exH_len (by decide) exOpen (by decide) (by decide) [2, 2] 7
    (by decide) (by decide) (by decide) (by decide)

end Zck.Stream
