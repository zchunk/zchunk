/-
C05 — the multipart path: framing and fragmentation.  One call of `multipart_extract` with a whole multipart body is, for the
target, exactly the payloads handed to `dl_write_range` one after the other, and a body that is accepted when delivered whole is
accepted fragment by fragment under every partition into non-empty callback invocations, down to one byte per call, ending in
exactly the context of the single call.  Proof: the states between two callbacks are characterised (`Reach`: at a part boundary
carrying the beginning of the next part header, or inside a payload), one more callback leads from such a state to the next
(`mp_step`, from `mpLoop_boundary`: the loop over any beginning of the rest of the body, and `dwr_cut`: a delivery that is taken completely can
be cut anywhere), and at the end of the body there is one such state only (`reach_end`).  The whole body in one call is the case
of one fragment.  The loop does not look behind its position (`mpLoop_drop`), so its steps are stated on the remaining buffer,
without positions.
-/
import ZckModel.Props.C05Frag
namespace Zck.C05
open Zck.Dl

def crlf2 : Bytes := [13, 10, 13, 10]

/-- no CRLFCRLF starts inside `h0` when `h0` is followed by CRLFCRLF -/
def NoEarly (h0 : Bytes) : Prop := ∀ j, j < h0.length → ((h0 ++ crlf2).drop j).take 4 ≠ crlf2

theorem scanFrom_find : ∀ (h0 : Bytes) (y : UInt8) (rest : Bytes) (j : Nat), NoEarly h0 →
    scanFrom (h0 ++ crlf2 ++ y :: rest) j = .inr (j + h0.length)
  | [], y, rest, j, _ => (scanFrom_cons 13 (10 :: 13 :: 10 :: y :: rest) j).trans
      ((if_neg (Nat.not_lt.2 (Nat.le_add_left 4 _))).trans (if_pos rfl))
  | a :: h0, y, rest, j, hne => by
    have hl : 4 ≤ (a :: h0 ++ crlf2).length := by rw [List.length_append]; exact Nat.le_add_left 4 _
    rw [show a :: h0 ++ crlf2 ++ y :: rest = a :: (h0 ++ crlf2 ++ y :: rest) from rfl, scanFrom_cons,
      if_neg (by
        rw [List.length_append, List.length_append]
        exact Nat.not_lt.2 (Nat.le_trans (Nat.le_add_left 4 _) (Nat.le_add_right _ _)))]
    refine (if_neg fun hc => hne 0 (Nat.succ_pos _)
      ((List.take_append_of_le_length (l₂ := y :: rest) hl).symm.trans hc)).trans ?_
    rw [scanFrom_find h0 y rest (j + 1) (fun k hk => hne (k + 1) (Nat.succ_lt_succ hk)),
      List.length_cons, Nat.add_assoc, Nat.add_comm 1]

theorem scanFrom_inr_at : ∀ (bs : Bytes) (j r : Nat), scanFrom bs j = .inr r → ((bs.drop (r - j)).take 4 = crlf2 ∧ j ≤ r)
  | [], j, r, h => nomatch h
  | a :: bs, j, r, h => by
    rw [scanFrom_cons] at h
    split at h
    · exact nomatch h
    · split at h
      · cases h; rw [Nat.sub_self]; exact ⟨‹_›, Nat.le_refl _⟩
      · have ih := scanFrom_inr_at bs (j + 1) r h
        rw [← Nat.sub_add_cancel (Nat.le_sub_of_add_le' ih.2 : 1 ≤ r - j), Nat.sub_sub]
        exact ⟨ih.1, Nat.le_of_succ_le ih.2⟩

theorem scanFrom_append_inr : ∀ (a b : Bytes) (j r : Nat), scanFrom a j = .inr r → scanFrom (a ++ b) j = .inr r
  | [], _, j, r, h => nomatch h
  | x :: a, b, j, r, h => by
    rw [scanFrom_cons] at h
    rw [List.cons_append, scanFrom_cons]
    split at h
    · exact nomatch h
    · have hl : 4 ≤ a.length := Nat.le_of_not_lt ‹_›
      rw [if_neg (Nat.not_lt.2 (Nat.le_trans hl (List.length_append ▸ Nat.le_add_right _ _))),
        ← List.cons_append, List.take_append_of_le_length (Nat.le_succ_of_le hl)]
      split at h
      · rw [if_pos ‹_›]; exact h
      · rw [if_neg ‹_›]; exact scanFrom_append_inr a b (j + 1) r h

/-- one part of a multipart body as the server sends it: the part header `h0 ++ CRLFCRLF` and the payload -/
structure Part where
  h0      : Bytes
  payload : Bytes

def Part.bytes (p : Part) : Bytes := p.h0 ++ crlf2 ++ p.payload

/-- the subject string `regexec` is given for this part header (after `j[3] = 0`) -/
def Part.subject (p : Part) : Bytes := cstr (p.h0 ++ [13, 10, 13, 0])

/-- the part is well formed for pattern `pp` under the oracle `rx`; `m`: the pattern's two numbers are a range of exactly the
payload's length -/
structure PartOk (rx : Rx) (pp : Bytes) (p : Part) : Prop where
  early : NoEarly p.h0
  nonempty : p.payload ≠ []
  small : p.payload.length < W64
  m : ∃ a1 b1 a2 b2, rx.part pp p.subject = some (a1, b1, a2, b2) ∧ a1 ≤ b1 ∧ b1 ≤ p.subject.length ∧ a2 ≤ b2 ∧ b2 ≤ p.subject.length ∧
        (parseNum p.subject a2 b2 + W64 - parseNum p.subject a1 b1 + 1) % W64 = p.payload.length

/-- what follows the last part holds no complete part header: the scan runs to the end -/
def NoHeader (t : Bytes) : Prop := ∀ j r, scanFrom t j ≠ .inr r

def setMp (m : Mp) (s : St) : St := { s with mp := m }

theorem dwr_setMp (e : Env) (m : Mp) (F : Nat) (s : St) (x : Bytes) :
    dlWriteRange e F (setMp m s) x = ((dlWriteRange e F s x).1, setMp m (dlWriteRange e F s x).2) :=
  dwr_update e (setMp m) (fun _ => rfl) (fun _ _ => rfl) F s x

theorem setMp_self (s : St) (h : s.mp = {}) : setMp {} s = s := by rw [← h]; rfl

theorem noHeader_prefix (t s : Bytes) (h : NoHeader (t ++ s)) : NoHeader t :=
  fun j r hr => h j r (scanFrom_append_inr t s j r hr)

theorem noHeader_short (h0 t s : Bytes) (hearly : NoEarly h0) (hp : t ++ s = h0 ++ crlf2) : NoHeader t := by
  intro j r hr
  have hsp := (C17.scanFrom_spec t j).2 r hr
  obtain ⟨hat, hjr⟩ := scanFrom_inr_at t j r hr
  have hl := congrArg List.length hp
  simp only [List.length_append, crlf2, List.length_cons, List.length_nil] at hl
  have hlt : r - j < h0.length := by omega
  apply hearly (r - j) hlt
  rw [← hp, List.drop_append_of_le_length (by omega), List.take_append_of_le_length (by simp only [List.length_drop]; omega)]
  exact hat

/-- the part pattern finds, in the part header `h0`, the two numbers of a range of `L` bytes -/
def RxFinds (rx : Rx) (pp : Bytes) (h0 : Bytes) (L : Nat) : Prop :=
  ∃ a1 b1 a2 b2, rx.part pp (cstr (h0 ++ [13, 10, 13, 0])) = some (a1, b1, a2, b2) ∧ a1 ≤ b1 ∧
    b1 ≤ (cstr (h0 ++ [13, 10, 13, 0])).length ∧ a2 ≤ b2 ∧ b2 ≤ (cstr (h0 ++ [13, 10, 13, 0])).length ∧
    (parseNum (cstr (h0 ++ [13, 10, 13, 0])) a2 b2 + W64 - parseNum (cstr (h0 ++ [13, 10, 13, 0])) a1 b1 + 1) % W64 = L

theorem mpPartHeader_finds (e : Env) (h0 : Bytes) (L : Nat) (st : St) (pp : Bytes) (hmp : st.mp = {}) (hrx : st.dlRx = .ok pp)
    (hfinds : RxFinds e.rx pp h0 L) : mpPartHeader e (cstr (h0 ++ [13, 10, 13, 0])) st = (true, setMp ⟨1, L, none⟩ st) := by
  obtain ⟨a1, b1, a2, b2, hm, h1, h2, h3, h4, hlen⟩ := hfinds
  unfold mpPartHeader
  rw [hrx]
  simp only [hm]
  rw [if_neg (by simp only [Classical.not_not]; exact ⟨h1, h2, h3, h4⟩)]
  simp only [hlen, hmp, setMp, hrx]

theorem mpLoop_header (e : Env) (fuel : Nat) (h0 : Bytes) (y : UInt8) (ys : Bytes) (L : Nat) (st : St) (pp : Bytes)
    (hmp : st.mp = {}) (hrx : st.dlRx = .ok pp) (hearly : NoEarly h0) (hfinds : RxFinds e.rx pp h0 L) :
    mpLoop e (fuel + 1) (h0 ++ crlf2 ++ y :: ys) 0 0 st = mpLoop e fuel (y :: ys) 0 0 (setMp ⟨1, L, none⟩ st) := by
  have hst : st.mp.state = 0 := by rw [hmp]
  -- `j[3] = 0` makes the part header a C string
  have hset : (h0 ++ crlf2 ++ y :: ys).set (0 + h0.length + 3) 0 = (h0 ++ [13, 10, 13]) ++ 0 :: y :: ys := by
    have h3 : 0 + h0.length + 3 - (h0 ++ [13, 10, 13]).length = 0 := by simp
    rw [show h0 ++ crlf2 ++ y :: ys = (h0 ++ [13, 10, 13]) ++ 10 :: y :: ys by simp [crlf2],
      List.set_append_right _ _ (by simp), h3]
    rfl
  have e0 : h0 ++ [13, 10, 13] ++ [0] = h0 ++ [13, 10, 13, 0] := by simp
  rw [mpLoop]
  rw [if_neg (by simp [hst]), if_neg (by simp), show scanHdr (h0 ++ crlf2 ++ y :: ys) 0 = .inr (0 + h0.length) from
    scanFrom_find h0 y ys 0 hearly]
  dsimp only
  rw [hset, List.drop_zero, cstr_append_zero (h0 ++ [13, 10, 13]) (y :: ys), e0, mpPartHeader_finds e h0 L st pp hmp hrx hfinds]
  have hdrop : (h0 ++ [13, 10, 13] ++ 0 :: y :: ys).drop (h0.length + 4) = y :: ys := by
    rw [show h0 ++ [13, 10, 13] ++ 0 :: y :: ys = (h0 ++ [13, 10, 13, 0]) ++ y :: ys by simp]
    exact List.drop_left' (by simp)
  have := mpLoop_drop e (h0.length + 4) fuel (h0 ++ [13, 10, 13] ++ 0 :: y :: ys) 0 0 0 (setMp ⟨1, L, none⟩ st)
    (.inr (by simp [setMp]))
  rw [hdrop, Nat.add_zero] at this
  rw [Nat.zero_add]
  exact this

theorem mpLoop_pay_all (e : Env) (fuel hs : Nat) (x2 rest : Bytes) (t : St) (hmp : t.mp = {}) (hne : x2 ≠ []) :
    mpLoop e (fuel + 1) (x2 ++ rest) 0 hs (setMp ⟨1, x2.length, none⟩ t) =
      if (dlWriteRange e (2 * x2.length + 2) t x2).1 ≠ x2.length then (false, (dlWriteRange e (2 * x2.length + 2) t x2).2)
      else mpLoop e fuel rest 0 0 (dlWriteRange e (2 * x2.length + 2) t x2).2 := by
  have hpos : 0 < x2.length := List.length_pos_iff.mpr hne
  have hpay : mpPayload e (x2 ++ rest) 0 hs (setMp ⟨1, x2.length, none⟩ t) =
      (x2.length, 0 + x2.length, decide ((dlWriteRange e (2 * x2.length + 2) t x2).1 = x2.length),
        (dlWriteRange e (2 * x2.length + 2) t x2).2) := by
    unfold mpPayload
    simp only [setMp, Nat.sub_zero, List.length_append, Nat.le_add_right, ↓reduceIte, List.drop_zero, List.take_left]
    rw [show ({ t with mp := ⟨0, 0, none⟩ } : St) = t from setMp_self t hmp]
  rw [mpLoop]
  rw [if_pos (by simp [setMp]), if_neg (by simp only [List.length_append]; omega), hpay]
  dsimp only
  have hd := mpLoop_drop e x2.length fuel (x2 ++ rest) 0 0 (0 + x2.length) (dlWriteRange e (2 * x2.length + 2) t x2).2
    (.inl (by simp))
  rw [List.drop_left, Nat.add_comm] at hd
  rw [hd]
  by_cases h : (dlWriteRange e (2 * x2.length + 2) t x2).1 = x2.length
  · rw [if_neg (by simpa using h), if_neg (by simpa using h)]
  · rw [if_pos (by simpa using h), if_pos h]

theorem mpLoop_pay_part (e : Env) (fuel hs : Nat) (r : Bytes) (L : Nat) (t : St) (hr : r ≠ []) (hgt : r.length < L) :
    mpLoop e (fuel + 2) r 0 hs (setMp ⟨1, L, none⟩ t) =
      (decide ((dlWriteRange e (2 * r.length + 2) t r).1 = r.length),
        setMp ⟨1, L - r.length, none⟩ (dlWriteRange e (2 * r.length + 2) t r).2) := by
  have hpos : 0 < r.length := List.length_pos_iff.mpr hr
  have hpay : mpPayload e r 0 hs (setMp ⟨1, L, none⟩ t) =
      (r.length, hs, decide ((dlWriteRange e (2 * r.length + 2) t r).1 = r.length),
        setMp ⟨1, L - r.length, none⟩ (dlWriteRange e (2 * r.length + 2) t r).2) := by
    unfold mpPayload
    simp only [setMp, Nat.sub_zero, Nat.not_le_of_gt hgt, ↓reduceIte, List.drop_zero, List.take_length]
    have := dwr_setMp e ⟨1, L - r.length, none⟩ (2 * r.length + 2) t r
    simp only [setMp] at this
    rw [this]
  rw [mpLoop]
  rw [if_pos (by simp [setMp]), if_neg (Nat.not_le_of_gt hpos), hpay]
  dsimp only
  by_cases h : (dlWriteRange e (2 * r.length + 2) t r).1 = r.length
  · rw [if_neg (by simpa using h), decide_eq_true h, mpLoop]
    rw [if_pos (by simp [setMp]), if_pos (by simp)]
  · rw [if_pos (by simpa using h), decide_eq_false h]

def partsBytes (ps : List Part) : Bytes := (ps.map Part.bytes).flatten

/-- the payloads handed to `dl_write_range` one after the other -/
def dwrParts (e : Env) : St → List Part → St
  | st, [] => st
  | st, p :: ps => dwrParts e (dlWriteRange e (2 * p.payload.length + 2) st p.payload).2 ps

/-- every payload is taken completely -/
def Taken (e : Env) : St → List Part → Prop
  | _, [] => True
  | st, p :: ps => (dlWriteRange e (2 * p.payload.length + 2) st p.payload).1 = p.payload.length ∧
      Taken e (dlWriteRange e (2 * p.payload.length + 2) st p.payload).2 ps

/-- a context at a part boundary of a multipart body that is being taken -/
structure Bd (pp : Bytes) (s : St) : Prop where
  err : s.err = false
  mp  : s.mp = {}
  rx  : s.dlRx = .ok pp
  hi  : HashInv s

theorem bd_dwr (e : Env) (pp : Bytes) (s : St) (x : Bytes) (F : Nat) (hb : Bd pp s) (hx : x ≠ [])
    (ht : (dlWriteRange e F s x).1 = x.length) : Bd pp (dlWriteRange e F s x).2 :=
  ⟨(dwr_out e F s x).2 (by have := List.length_pos_iff.mpr hx; omega), by rw [dwr_mp]; exact hb.mp,
   by rw [dwr_dlRx]; exact hb.rx, hashInv_dwr e F s x hb.hi⟩

/-- at a boundary, with the beginning `t` of the next part header (or of the trailer) kept for the next call -/
def withBuf (s : St) (t : Bytes) : St := if t = [] then s else setMp { s.mp with buffer := some t } s

/-- inside a payload: `x1` has been handed to `dl_write_range`, `n` more bytes of the part are expected -/
def inPay (e : Env) (s : St) (x1 : Bytes) (n : Nat) : St :=
  setMp { state := 1, length := n, buffer := none } (dlWriteRange e (2 * x1.length + 2) s x1).2

/-- `s` is the context after the bytes `d` of the body `partsBytes todo ++ trailer` have been delivered to a context that was
`sb` at the part boundary where `d` begins -/
inductive Reach (e : Env) (trailer : Bytes) (sb : St) (todo : List Part) (d : Bytes) (s : St) : Prop
  | hdr (k rest : List Part) (t w : Bytes) (h1 : todo = k ++ rest) (h2 : d = partsBytes k ++ t)
        (h3 : t ++ w = partsBytes rest ++ trailer) (h4 : NoHeader t) (h5 : s = withBuf (dwrParts e sb k) t)
  | pay (k : List Part) (p : Part) (rest : List Part) (x1 x2 : Bytes) (h1 : todo = k ++ p :: rest) (h2 : p.payload = x1 ++ x2)
        (h3 : x1 ≠ []) (h4 : x2 ≠ []) (h5 : d = partsBytes k ++ (p.h0 ++ crlf2 ++ x1))
        (h6 : s = inPay e (dwrParts e sb k) x1 x2.length)

theorem partsBytes_cons (p : Part) (ps : List Part) : partsBytes (p :: ps) = p.bytes ++ partsBytes ps := by
  simp [partsBytes]

theorem partsBytes_append (a b : List Part) : partsBytes (a ++ b) = partsBytes a ++ partsBytes b := by
  simp [partsBytes]

theorem partsBytes_ne_nil : ∀ (ps : List Part) (t : Bytes), ps ≠ [] → partsBytes ps ++ t ≠ []
  | p :: ps, t, _ => fun h => by
    simp only [partsBytes_cons, Part.bytes, crlf2, List.append_eq_nil_iff, List.cons_ne_nil, and_false, false_and] at h

theorem dwrParts_append (e : Env) : ∀ (a b : List Part) (s : St), dwrParts e s (a ++ b) = dwrParts e (dwrParts e s a) b
  | [], _, _ => rfl
  | p :: a, b, s => by simp only [List.cons_append, dwrParts]; exact dwrParts_append e a b _

theorem dwrParts_mp (e : Env) : ∀ (qs : List Part) (s : St), (dwrParts e s qs).mp = s.mp
  | [], _ => rfl
  | q :: qs, s => by simp only [dwrParts]; rw [dwrParts_mp e qs, dwr_mp]

theorem dwrParts_boundary (e : Env) : ∀ (qs : List Part) (s : St), (dwrParts e s qs).boundary = s.boundary
  | [], _ => rfl
  | q :: qs, s => by simp only [dwrParts]; rw [dwrParts_boundary e qs, dwr_boundary]

theorem taken_append (e : Env) : ∀ (a b : List Part) (s : St), Taken e s (a ++ b) ↔ (Taken e s a ∧ Taken e (dwrParts e s a) b)
  | [], _, _ => by simp [Taken, dwrParts]
  | p :: a, b, s => by
    simp only [List.cons_append, Taken, dwrParts]
    rw [taken_append e a b]
    exact and_assoc.symm

theorem reach_cons (e : Env) (trailer : Bytes) (sb : St) (p : Part) (rest : List Part) (d s) 
    (h : Reach e trailer (dlWriteRange e (2 * p.payload.length + 2) sb p.payload).2 rest d s) :
    Reach e trailer sb (p :: rest) (p.bytes ++ d) s := by
  cases h with
  | hdr k r t w h1 h2 h3 h4 h5 =>
    exact .hdr (p :: k) r t w (by rw [h1]; rfl) (by rw [h2, partsBytes_cons, List.append_assoc]) h3 h4 h5
  | pay k q r x1 x2 h1 h2 h3 h4 h5 h6 =>
    exact .pay (p :: k) q r x1 x2 (by rw [h1]; rfl) h2 h3 h4 (by rw [h5, partsBytes_cons]; simp [List.append_assoc]) h6

theorem reach_append (e : Env) (trailer : Bytes) : ∀ (k0 : List Part) (sb : St) (rest : List Part) (d : Bytes) (s : St),
    Reach e trailer (dwrParts e sb k0) rest d s → Reach e trailer sb (k0 ++ rest) (partsBytes k0 ++ d) s
  | [], sb, rest, d, s, h => by simpa [partsBytes, dwrParts] using h
  | p :: k0, sb, rest, d, s, h => by
    have := reach_append e trailer k0 _ rest d s h
    have := reach_cons e trailer sb p (k0 ++ rest) _ s this
    rw [partsBytes_cons, List.append_assoc]
    exact this

theorem append_split_ge {α : Type} {a b c d : List α} (h : a ++ b = c ++ d) (hl : c.length ≤ a.length) :
    ∃ c', a = c ++ c' ∧ c' ++ b = d := by
  rcases List.append_eq_append_iff.mp h with ⟨a', h1, h2⟩ | ⟨c', h1, h2⟩
  · have : a'.length = 0 := by have := congrArg List.length h1; simp at this; omega
    have ha' : a' = [] := List.eq_nil_of_length_eq_zero this
    subst ha'
    exact ⟨[], by simpa using h1.symm, by simpa using h2⟩
  · exact ⟨c', h1, h2.symm⟩

theorem append_split_le {α : Type} {a b c d : List α} (h : a ++ b = c ++ d) (hl : a.length ≤ c.length) :
    ∃ a', c = a ++ a' ∧ b = a' ++ d := by
  obtain ⟨x, h1, h2⟩ := append_split_ge h.symm hl
  exact ⟨x, h1, h2.symm⟩

theorem mpLoop_tail (e : Env) (fuel : Nat) (r : Bytes) (st : St) (hst : st.mp.state = 0) (hn : NoHeader r) :
    mpLoop e (fuel + 2) r 0 0 st = (true, withBuf st r) := by
  have hend : ∀ F i, i ≥ r.length → mpLoop e (F + 1) r i 0 st = (true, withBuf st r) := fun F i hi => by
    rw [mpLoop]
    rw [if_neg (by simp [hst]), if_pos hi, List.drop_zero, Nat.sub_zero]
    unfold withBuf
    by_cases h : r = []
    · rw [if_pos h, h]; rfl
    · rw [if_neg h, if_pos (List.length_pos_iff.mpr h)]; rfl
  by_cases h0 : 0 ≥ r.length
  · exact hend _ 0 h0
  · rw [mpLoop]
    rw [if_neg (by simp [hst]), if_neg h0]
    cases hs : scanHdr r 0 with
    | inr j => exact absurd hs (hn 0 j)
    | inl j => exact hend _ (j + 4) (C17.scanHdr_inl r 0 j hs)

/-- the loop from a part boundary over any beginning `r` of the rest of the body; by induction over the parts -/
theorem mpLoop_boundary (e : Env) (pp trailer : Bytes) (htr : NoHeader trailer) : ∀ (todo : List Part) (sb : St) (r : Bytes) (fuel : Nat) (w : Bytes),
    Bd pp sb → (∀ p ∈ todo, PartOk e.rx pp p) → Taken e sb todo →
    r ++ w = partsBytes todo ++ trailer → 2 * r.length + 3 ≤ fuel →
    ∃ s', mpLoop e fuel r 0 0 sb = (true, s') ∧ Reach e trailer sb todo r s'
  | [], sb, r, fuel, w, hb, _, _, hd, hf => by
    have hn : NoHeader r := noHeader_prefix _ w (by rw [hd]; simpa [partsBytes] using htr)
    obtain ⟨F, rfl⟩ := Nat.exists_eq_add_of_le' (Nat.le_trans (Nat.le_add_left 2 _) hf)
    exact ⟨_, mpLoop_tail e F r sb (by rw [hb.mp]) hn, .hdr [] [] r w rfl (by simp [partsBytes]) hd hn rfl⟩
  | p :: rest, sb, r, fuel, w, hb, hok, htk, hd, hf => by
    have hp := hok p List.mem_cons_self
    obtain ⟨ht1, ht2⟩ := htk
    have hd' : r ++ w = (p.h0 ++ crlf2) ++ (p.payload ++ (partsBytes rest ++ trailer)) := by
      rw [hd, partsBytes_cons, Part.bytes]; simp only [List.append_assoc]
    have hhl : (p.h0 ++ crlf2).length = p.h0.length + 4 := by simp [crlf2]
    obtain ⟨F, rfl⟩ := Nat.exists_eq_add_of_le' (Nat.le_trans (Nat.le_add_left 3 _) hf)
    by_cases hshort : r.length ≤ p.h0.length + 4
    · -- not even the part header with one byte of payload
      obtain ⟨s1, hs1, _⟩ := append_split_le hd' (hhl ▸ hshort)
      have hn : NoHeader r := noHeader_short p.h0 _ s1 hp.early hs1.symm
      exact ⟨_, mpLoop_tail e (F + 1) r sb (by rw [hb.mp]) hn, .hdr [] (p :: rest) r w rfl (by simp [partsBytes]) hd hn rfl⟩
    · -- the part header and a non-empty beginning `x1` of what follows it
      obtain ⟨x1, rfl, hx2⟩ := append_split_ge hd' (hhl ▸ Nat.le_of_not_le hshort)
      have hrl : (p.h0 ++ crlf2 ++ x1).length = p.h0.length + 4 + x1.length := by rw [List.length_append, hhl]
      have hx1ne : x1 ≠ [] := fun h => hshort (by rw [hrl, h]; exact Nat.le_refl _)
      obtain ⟨y, ys, rfl⟩ := List.exists_cons_of_ne_nil hx1ne
      -- `hp.m` is `RxFinds e.rx pp p.h0 p.payload.length` written out
      rw [mpLoop_header e (F + 2) p.h0 y ys p.payload.length sb pp hb.mp hb.rx hp.early hp.m]
      by_cases hlt : (y :: ys).length < p.payload.length
      · -- the buffer ends inside the payload
        obtain ⟨a', ha1, _⟩ := append_split_le hx2 (Nat.le_of_lt hlt)
        have ha'l : p.payload.length = (y :: ys).length + a'.length := by rw [ha1, List.length_append]
        have ha'ne : a' ≠ [] := fun h => by rw [h, List.length_nil] at ha'l; omega
        have hcut := dwr_cut e sb (y :: ys) a' (2 * p.payload.length + 2) (2 * (y :: ys).length + 2) (2 * a'.length + 2) hx1ne ha'ne
          hb.err hb.hi (by rw [← ha1]; exact Nat.le_refl _) (Nat.le_refl _) (Nat.le_refl _) (by rw [← ha1]; exact ht1)
        rw [mpLoop_pay_part e F 0 (y :: ys) p.payload.length sb hx1ne hlt, decide_eq_true hcut.1,
          show p.payload.length - (y :: ys).length = a'.length by omega]
        exact ⟨_, rfl, .pay [] p rest (y :: ys) a' rfl ha1 hx1ne ha'ne (by simp [partsBytes]) rfl⟩
      · -- the whole payload is in the buffer: it is taken, and the loop stands at the next part boundary
        obtain ⟨c', hc1, hc2⟩ := append_split_ge hx2 (Nat.le_of_not_lt hlt)
        rw [hc1, mpLoop_pay_all e (F + 1) 0 p.payload c' sb hb.mp hp.nonempty, if_neg (by simpa using ht1)]
        obtain ⟨s', hs1, hs2⟩ := mpLoop_boundary e pp trailer htr rest (dlWriteRange e (2 * p.payload.length + 2) sb p.payload).2 c' (F + 1) w
          (bd_dwr e pp sb _ _ hb hp.nonempty ht1) (fun q hq => hok q (List.mem_cons_of_mem _ hq)) ht2 hc2
          (by rw [hrl, hc1, List.length_append] at hf; omega)
        refine ⟨s', hs1, ?_⟩
        have := reach_cons e trailer sb p rest c' s' hs2
        rwa [Part.bytes, List.append_assoc] at this

theorem bd_dwrParts (e : Env) (pp : Bytes) : ∀ (k : List Part) (s : St), Bd pp s → (∀ p ∈ k, PartOk e.rx pp p) → Taken e s k →
    Bd pp (dwrParts e s k)
  | [], s, hb, _, _ => hb
  | p :: k, s, hb, hok, ht => by
    simp only [dwrParts]
    exact bd_dwrParts e pp k _ (bd_dwr e pp s _ _ hb (hok p List.mem_cons_self).nonempty ht.1)
      (fun q hq => hok q (List.mem_cons_of_mem _ hq)) ht.2

theorem mpJoin_withBuf (sb : St) (t f : Bytes) (hmp : sb.mp = {}) : mpJoin (withBuf sb t) f = (t ++ f, sb) := by
  unfold withBuf
  by_cases ht : t = []
  · rw [if_pos ht, ht]; unfold mpJoin; rw [hmp]; rfl
  · rw [if_neg ht, hmp]; exact congrArg (Prod.mk _) (setMp_self sb hmp)

theorem withBuf_err (sb : St) (t : Bytes) : (withBuf sb t).err = sb.err := by
  unfold withBuf; split <;> rfl
theorem withBuf_valid (sb : St) (t : Bytes) : (withBuf sb t).valid = sb.valid := by
  unfold withBuf; split <;> rfl

theorem mpExtract_ready (e : Env) (s : St) (f pp : Bytes) (he : s.err = false) (hrx : s.dlRx = .ok pp) :
    mpExtract e s f = mpLoop e (2 * (mpJoin s f).1.length + 4) (mpJoin s f).1 0 0 (mpJoin s f).2 := by
  have hen : mpEnsureRx e (mpJoin s f).2 = (true, (mpJoin s f).2) := by
    have : (mpJoin s f).2.dlRx = .ok pp := by unfold mpJoin; cases s.mp.buffer <;> exact hrx
    unfold mpEnsureRx; rw [this]
  unfold mpExtract
  rw [if_neg (by simp [he])]
  dsimp only
  rw [hen, if_neg (by simp)]

/-- what holds at the boundary behind the parts `k` of a body that is being taken -/
theorem bd_split (e : Env) (pp : Bytes) (k rest : List Part) (st : St) (hb : Bd pp st)
    (hok : ∀ p ∈ k ++ rest, PartOk e.rx pp p) (htk : Taken e st (k ++ rest)) :
    Bd pp (dwrParts e st k) ∧ (∀ p ∈ rest, PartOk e.rx pp p) ∧ Taken e (dwrParts e st k) rest :=
  have ⟨tk1, tk2⟩ := (taken_append e k rest st).mp htk
  ⟨bd_dwrParts e pp k st hb (fun p hp => hok p (List.mem_append_left _ hp)) tk1,
    fun p hp => hok p (List.mem_append_right _ hp), tk2⟩

/-- a fragment that arrives at a part boundary, where `t` has been kept: the loop runs over `t ++ f` -/
theorem mp_step_hdr (e : Env) (pp trailer : Bytes) (htr : NoHeader trailer) (sb : St) (todo : List Part) (t f w : Bytes)
    (hb : Bd pp sb) (hok : ∀ p ∈ todo, PartOk e.rx pp p) (htk : Taken e sb todo)
    (hd : t ++ f ++ w = partsBytes todo ++ trailer) :
    ∃ s', mpExtract e (withBuf sb t) f = (true, s') ∧ Reach e trailer sb todo (t ++ f) s' := by
  obtain ⟨s', hs1, hs2⟩ := mpLoop_boundary e pp trailer htr todo sb (t ++ f) (2 * (t ++ f).length + 4) w hb hok htk hd (Nat.le_succ _)
  refine ⟨s', ?_, hs2⟩
  rw [mpExtract_ready e _ f pp ((withBuf_err sb t).trans hb.err) (by unfold withBuf; split <;> exact hb.rx),
    mpJoin_withBuf sb t f hb.mp]
  exact hs1

/-- a fragment that arrives inside the payload of `p`, of which `x1` has been taken and `x2` is to come: it ends inside the
payload, or holds the rest of it and the loop goes on from the next boundary -/
theorem mp_step_pay (e : Env) (pp trailer : Bytes) (htr : NoHeader trailer) (sb : St) (p : Part) (rest : List Part)
    (x1 x2 f w : Bytes) (hb : Bd pp sb) (hok : ∀ q ∈ p :: rest, PartOk e.rx pp q) (htk : Taken e sb (p :: rest))
    (h2 : p.payload = x1 ++ x2) (h3 : x1 ≠ []) (h4 : x2 ≠ []) (hf : f ≠ [])
    (hrest : f ++ w = x2 ++ (partsBytes rest ++ trailer)) :
    ∃ s', mpExtract e (inPay e sb x1 x2.length) f = (true, s') ∧
      Reach e trailer sb (p :: rest) (p.h0 ++ crlf2 ++ x1 ++ f) s' := by
  have hp : PartOk e.rx pp p := hok p List.mem_cons_self
  obtain ⟨ht1, ht2⟩ := htk
  have hcut := dwr_cut e sb x1 x2 (2 * p.payload.length + 2) (2 * x1.length + 2) (2 * x2.length + 2) h3 h4 hb.err hb.hi
    (h2 ▸ Nat.le_refl _) (Nat.le_refl _) (Nat.le_refl _) (by rw [← h2]; exact ht1)
  have hx1l : 0 < x1.length := List.length_pos_iff.mpr h3
  have herr1 : (dlWriteRange e (2 * x1.length + 2) sb x1).2.err = false := (dwr_out e _ sb x1).2 (by rw [hcut.1]; exact Nat.ne_of_gt hx1l)
  have hmp1 : (dlWriteRange e (2 * x1.length + 2) sb x1).2.mp = {} := by rw [dwr_mp]; exact hb.mp
  have hrx1 : (dlWriteRange e (2 * x1.length + 2) sb x1).2.dlRx = .ok pp := by rw [dwr_dlRx]; exact hb.rx
  have hext : mpExtract e (inPay e sb x1 x2.length) f = mpLoop e (2 * f.length + 4) f 0 0 (inPay e sb x1 x2.length) := by
    rw [mpExtract_ready e (inPay e sb x1 x2.length) f pp herr1 hrx1]
    rfl
  by_cases hlt : f.length < x2.length
  · -- the fragment ends inside the payload
    obtain ⟨x2', hx2a, hx2b⟩ := append_split_le hrest (Nat.le_of_lt hlt)
    have hx2'ne : x2' ≠ [] := fun h => Nat.lt_irrefl f.length (by rwa [hx2a, h, List.append_nil] at hlt)
    have hA := dwr_cut e sb (x1 ++ f) x2' (2 * p.payload.length + 2) (2 * (x1 ++ f).length + 2) (2 * x2'.length + 2)
      (by simp [h3]) hx2'ne hb.err hb.hi (by rw [h2, hx2a]; simp only [List.length_append]; omega) (Nat.le_refl _) (Nat.le_refl _)
      (by rw [List.append_assoc, ← hx2a, ← h2]; exact ht1)
    have hB := dwr_cut e sb x1 f (2 * (x1 ++ f).length + 2) (2 * x1.length + 2) (2 * f.length + 2) h3 hf hb.err hb.hi
      (Nat.le_refl _) (Nat.le_refl _) (Nat.le_refl _) hA.1
    refine ⟨inPay e sb (x1 ++ f) x2'.length, ?_, .pay [] p rest (x1 ++ f) x2' rfl (by rw [h2, hx2a, List.append_assoc])
      (by simp [h3]) hx2'ne (by simp [partsBytes, List.append_assoc]) rfl⟩
    rw [hext]
    show mpLoop e (2 * f.length + 2 + 2) f 0 0 (setMp ⟨1, x2.length, none⟩ _) = _
    rw [mpLoop_pay_part e (2 * f.length + 2) 0 f x2.length _ hf hlt]
    rw [hB.2.2.1, hB.2.2.2, decide_eq_true rfl, show x2.length - f.length = x2'.length by rw [hx2a]; simp]
    rfl
  · -- the fragment holds the rest of the payload
    obtain ⟨d', hd1, hd2⟩ := append_split_ge hrest (Nat.le_of_not_lt hlt)
    subst hd1
    obtain ⟨s', hs1, hs2⟩ := mpLoop_boundary e pp trailer htr rest (dlWriteRange e (2 * p.payload.length + 2) sb p.payload).2 d'
      (2 * (x2 ++ d').length + 3) w (bd_dwr e pp sb _ _ hb hp.nonempty ht1) (fun q hq => hok q (List.mem_cons_of_mem _ hq)) ht2 hd2
      (by rw [List.length_append]; omega)
    refine ⟨s', ?_, ?_⟩
    · rw [hext]
      show mpLoop e (2 * (x2 ++ d').length + 3 + 1) (x2 ++ d') 0 0 (setMp ⟨1, x2.length, none⟩ _) = _
      rw [mpLoop_pay_all e (2 * (x2 ++ d').length + 3) 0 x2 d' _ hmp1 h4, hcut.2.2.2, if_neg (by simpa using hcut.2.2.1), ← h2]
      exact hs1
    · have := reach_cons e trailer sb p rest d' s' hs2
      rw [Part.bytes, h2] at this
      simpa only [List.append_assoc] using this

/-- one more callback: from any point of a multipart body that is being taken, the next fragment, whatever its length, is accepted
and leads to the point behind it -/
theorem mp_step (e : Env) (pp trailer : Bytes) (htr : NoHeader trailer) (st : St) (ps : List Part) (c f w : Bytes) (s : St)
    (hb : Bd pp st) (hok : ∀ p ∈ ps, PartOk e.rx pp p) (htk : Taken e st ps)
    (hr : Reach e trailer st ps c s) (hf : f ≠ []) (hbody : c ++ f ++ w = partsBytes ps ++ trailer) :
    ∃ s', mpExtract e s f = (true, s') ∧ Reach e trailer st ps (c ++ f) s' := by
  -- the step is made from the last boundary, `dwrParts e st k`, and its result seen from the first again
  cases hr with
  | hdr k rest t w0 h1 h2 h3 h4 h5 =>
    subst h1 h2 h5
    obtain ⟨hbk, hokr, tk2⟩ := bd_split e pp k rest st hb hok htk
    obtain ⟨s', hs1, hs2⟩ := mp_step_hdr e pp trailer htr _ rest t f w hbk hokr tk2
      (by simpa only [partsBytes_append, List.append_assoc, List.append_cancel_left_eq] using hbody)
    exact ⟨s', hs1, by rw [List.append_assoc]; exact reach_append e trailer k st rest _ s' hs2⟩
  | pay k p rest x1 x2 h1 h2 h3 h4 h5 h6 =>
    subst h1 h5 h6
    obtain ⟨hbk, hokr, tk2⟩ := bd_split e pp k (p :: rest) st hb hok htk
    obtain ⟨s', hs1, hs2⟩ := mp_step_pay e pp trailer htr _ p rest x1 x2 f w hbk hokr tk2 h2 h3 h4 hf
      (by simpa only [partsBytes_append, partsBytes_cons, Part.bytes, h2, List.append_assoc, List.append_cancel_left_eq] using hbody)
    exact ⟨s', hs1, by rw [List.append_assoc]; exact reach_append e trailer k st (p :: rest) _ s' hs2⟩

/-- `multipart_extract` called with one fragment after the other, stopping at the first refusal -/
def mpFeed (e : Env) : St → List Bytes → Bool × St
  | s, [] => (true, s)
  | s, f :: fs => if (mpExtract e s f).1 then mpFeed e (mpExtract e s f).2 fs else (false, (mpExtract e s f).2)

theorem mp_steps (e : Env) (pp trailer : Bytes) (htr : NoHeader trailer) (st : St) (ps : List Part)
    (hb : Bd pp st) (hok : ∀ p ∈ ps, PartOk e.rx pp p) (htk : Taken e st ps) :
    ∀ (fs : List Bytes) (c w : Bytes) (s : St), Reach e trailer st ps c s → (∀ f ∈ fs, f ≠ []) →
      c ++ fs.flatten ++ w = partsBytes ps ++ trailer →
      ∃ s', mpFeed e s fs = (true, s') ∧ Reach e trailer st ps (c ++ fs.flatten) s'
  | [], c, w, s, hr, _, _ => ⟨s, rfl, by simpa using hr⟩
  | f :: fs, c, w, s, hr, hne, hbody => by
    obtain ⟨s1, h1, h2⟩ := mp_step e pp trailer htr st ps c f (fs.flatten ++ w) s hb hok htk hr (hne f List.mem_cons_self)
      (by simpa only [List.flatten_cons, List.append_assoc] using hbody)
    obtain ⟨s', h3, h4⟩ := mp_steps e pp trailer htr st ps hb hok htk fs (c ++ f) w s1 h2
      (fun g hg => hne g (List.mem_cons_of_mem _ hg)) (by simpa only [List.flatten_cons, List.append_assoc] using hbody)
    refine ⟨s', ?_, by simpa only [List.flatten_cons, List.append_assoc] using h4⟩
    simp only [mpFeed, h1, ↓reduceIte]
    exact h3

/-- at the end of the body there is one state only -/
theorem reach_end (e : Env) (pp trailer : Bytes) (st : St) (ps : List Part) (s : St) (hok : ∀ p ∈ ps, PartOk e.rx pp p)
    (hr : Reach e trailer st ps (partsBytes ps ++ trailer) s) : s = withBuf (dwrParts e st ps) trailer := by
  cases hr with
  | hdr k rest t w h1 h2 h3 h4 h5 =>
    subst h1
    rw [partsBytes_append, List.append_assoc] at h2
    have ht : t = partsBytes rest ++ trailer := (List.append_cancel_left h2).symm
    cases rest with
    | nil =>
      simp only [partsBytes, List.map_nil, List.flatten_nil, List.nil_append] at ht
      rw [h5, ht]; simp
    | cons q rest =>
      exfalso
      have hq := hok q (by simp)
      obtain ⟨y, ys, hy⟩ := List.exists_cons_of_ne_nil hq.nonempty
      have hfind := scanFrom_find q.h0 y (ys ++ (partsBytes rest ++ trailer)) 0 hq.early
      apply h4 0 (0 + q.h0.length)
      rw [ht, partsBytes_cons]
      simp only [Part.bytes, hy, List.append_assoc, List.cons_append] at hfind ⊢
      exact hfind
  | pay k p rest x1 x2 h1 h2 h3 h4 h5 h6 =>
    exfalso
    subst h1
    have := congrArg List.length h5
    simp only [partsBytes_append, partsBytes_cons, Part.bytes, h2, List.length_append] at this
    have := List.length_pos_iff.mpr h4
    omega

theorem withBuf_nil (s : St) : withBuf s [] = s := by simp [withBuf]

theorem reach_nil (e : Env) (trailer : Bytes) (st : St) (ps : List Part) : Reach e trailer st ps [] st :=
  .hdr [] ps [] (partsBytes ps ++ trailer) rfl rfl rfl (fun j r => (nofun : Sum.inl j ≠ Sum.inr r)) (withBuf_nil st).symm

/-- C05 (multipart framing is transparent): one call of `multipart_extract` with a whole multipart body — well-formed parts with
whatever part headers the server likes, then a trailer — is, for the target file, the chunk marks, the open chunk and the running
checksum, exactly the payloads handed to `dl_write_range` one after the other; the trailer is kept for the next call -/
theorem multipart_whole (e : Env) (st : St) (pp : Bytes) (ps : List Part) (trailer : Bytes)
    (herr : st.err = false) (hmp : st.mp = {}) (hrx : st.dlRx = .ok pp) (hne : ps ≠ [])
    (hok : ∀ p ∈ ps, PartOk e.rx pp p) (htr : NoHeader trailer) (htk : Taken e st ps) :
    mpExtract e st (partsBytes ps ++ trailer) =
      (true, if trailer = [] then dwrParts e st ps
             else { dwrParts e st ps with mp := { (dwrParts e st ps).mp with buffer := some trailer } }) := by
  have hi : HashInv st := by
    cases ps with
    | nil => exact absurd rfl hne
    | cons p _ => exact hashInv_of_taken e _ st p.payload (hok p List.mem_cons_self).nonempty htk.1
  have hb : Bd pp st := ⟨herr, hmp, hrx, hi⟩
  obtain ⟨s', h1, h2⟩ := mpLoop_boundary e pp trailer htr ps st (partsBytes ps ++ trailer) (2 * (partsBytes ps ++ trailer).length + 4) [] hb hok htk
    (List.append_nil _) (Nat.le_succ _)
  have hj : mpJoin st (partsBytes ps ++ trailer) = (partsBytes ps ++ trailer, st) := by unfold mpJoin; rw [hmp]
  rw [mpExtract_ready e st _ pp herr hrx, hj, h1, reach_end e pp trailer st ps s' hok h2]
  rfl

/-- C05 (fragmentation independence, multipart path): a multipart body whose payloads `dl_write_range` takes completely
(`multipart_complete`: the case for the stored bytes of the requested chunks), delivered to `multipart_extract` in any sequence of
non-empty fragments, down to one byte per call: every fragment is accepted, and the context at the end, carry-over buffer and all,
is exactly the context after delivering the whole body in one call -/
theorem multipart_frag_indep (e : Env) (st : St) (pp : Bytes) (ps : List Part) (trailer : Bytes) (fs : List Bytes)
    (herr : st.err = false) (hmp : st.mp = {}) (hrx : st.dlRx = .ok pp) (hi : HashInv st) (hne : ps ≠ [])
    (hok : ∀ p ∈ ps, PartOk e.rx pp p) (htr : NoHeader trailer) (htk : Taken e st ps)
    (hfs : ∀ f ∈ fs, f ≠ []) (hcat : fs.flatten = partsBytes ps ++ trailer) :
    mpFeed e st fs = mpExtract e st (partsBytes ps ++ trailer) := by
  have hb : Bd pp st := ⟨herr, hmp, hrx, hi⟩
  have h0 := reach_nil e trailer st ps
  obtain ⟨s', h1, h2⟩ := mp_steps e pp trailer htr st ps hb hok htk fs [] [] st h0 hfs (by simpa using hcat)
  simp only [List.nil_append] at h2
  rw [hcat] at h2
  have hend := reach_end e pp trailer st ps s' hok h2
  rw [h1, hend]
  exact (multipart_whole e st pp ps trailer herr hmp hrx hne hok htr htk).symm

/-! `multipart_extract` does not look at the byte counter of the callback: `setDl n` can be applied before any of its steps or
after it. -/

theorem mpPartHeader_setDl (e : Env) (n : Nat) (t : Bytes) (s : St) :
    mpPartHeader e t (setDl n s) = ((mpPartHeader e t s).1, setDl n (mpPartHeader e t s).2) := by
  unfold mpPartHeader
  rw [show (setDl n s).dlRx = s.dlRx from rfl, show (setDl n s).endRx = s.endRx from rfl]
  repeat' split
  all_goals rfl

theorem mpPayload_setDl (e : Env) (n : Nat) (buf : Bytes) (i hs : Nat) (s : St) :
    mpPayload e buf i hs (setDl n s) =
      ((mpPayload e buf i hs s).1, (mpPayload e buf i hs s).2.1, (mpPayload e buf i hs s).2.2.1, setDl n (mpPayload e buf i hs s).2.2.2) := by
  unfold mpPayload
  show (let size := buf.length - i; _) = _
  simp only
  have hm : (setDl n s).mp = s.mp := rfl
  rw [hm]
  split
  · simp only
    have : ({ setDl n s with mp := { s.mp with length := 0, state := 0 } } : St) = setDl n { s with mp := { s.mp with length := 0, state := 0 } } := rfl
    rw [this, dwr_setDl]
  · simp only
    have : ({ setDl n s with mp := { s.mp with length := s.mp.length - (buf.length - i) } } : St) =
        setDl n { s with mp := { s.mp with length := s.mp.length - (buf.length - i) } } := rfl
    rw [this, dwr_setDl]

theorem mpLoop_setDl (e : Env) (n : Nat) (fuel : Nat) (buf : Bytes) (i hs : Nat) (s : St) :
    mpLoop e fuel buf i hs (setDl n s) = ((mpLoop e fuel buf i hs s).1, setDl n (mpLoop e fuel buf i hs s).2) := by
  have hm : ∀ t : St, (setDl n t).mp = t.mp := fun _ => rfl
  fun_induction mpLoop e fuel buf i hs s with
  | case1 => rfl
  | case2 F buf i hs st l hst hi => rw [mpLoop, hm, if_pos hst, if_pos hi]
  | case3 F buf i hs st l hst hi size hs' ok st' hp hok => rw [mpLoop, hm, if_pos hst, if_neg hi, mpPayload_setDl, hp]; simp only [hok]; rfl
  | case4 F buf i hs st l hst hi size hs' ok st' hp hok ih => rw [mpLoop, hm, if_pos hst, if_neg hi, mpPayload_setDl, hp]; simp only [hok]; exact ih
  | case5 F buf i hs st l hst hi => rw [mpLoop, hm, if_neg hst, if_pos hi]; split <;> rfl
  | case6 F buf i hs st l hst hi j hj ih => rw [mpLoop, hm, if_neg hst, if_neg hi, hj]; exact ih
  | case7 F buf i hs st l hst hi j hj buf' st' hp => rw [mpLoop, hm, if_neg hst, if_neg hi, hj]; dsimp only; rw [mpPartHeader_setDl, hp]
  | case8 F buf i hs st l hst hi j hj buf' st' hp ih => rw [mpLoop, hm, if_neg hst, if_neg hi, hj]; dsimp only; rw [mpPartHeader_setDl, hp]; exact ih
theorem mpEnsureRx_setDl (e : Env) (n : Nat) (s : St) :
    mpEnsureRx e (setDl n s) = ((mpEnsureRx e s).1, setDl n (mpEnsureRx e s).2) := by
  unfold mpEnsureRx
  rw [show (setDl n s).dlRx = s.dlRx from rfl]
  split
  · unfold genRegex
    rw [show (setDl n s).boundary = s.boundary from rfl]
    dsimp only
    cases e.rx.comp (partPattern (s.boundary.getD [])) <;> cases e.rx.comp (endPattern (s.boundary.getD [])) <;> rfl
  · rfl

theorem mpExtract_setDl (e : Env) (n : Nat) (s : St) (b : Bytes) :
    mpExtract e (setDl n s) b = ((mpExtract e s b).1, setDl n (mpExtract e s b).2) := by
  have hj : mpJoin (setDl n s) b = ((mpJoin s b).1, setDl n (mpJoin s b).2) := by
    unfold mpJoin
    rw [show (setDl n s).mp = s.mp from rfl]
    cases s.mp.buffer <;> rfl
  unfold mpExtract
  rw [show (setDl n s).err = s.err from rfl, hj]
  cases s.err
  case true => rfl
  dsimp only
  rw [mpEnsureRx_setDl]
  generalize mpEnsureRx e (mpJoin s b).2 = r
  cases hr : r.1
  · rfl
  · exact mpLoop_setDl e n _ _ 0 0 r.2

theorem writeChunkCb_mp (e : Env) (s : St) (b : Bytes) (hb : s.boundary.isSome) :
    writeChunkCb e s b = (if (mpExtract e s b).1 then b.length else 0, setDl (s.dlBytes + b.length) (mpExtract e s b).2) := by
  unfold writeChunkCb
  have h1 : ({ s with dlBytes := s.dlBytes + b.length } : St) = setDl (s.dlBytes + b.length) s := rfl
  simp only [h1]
  cases hbb : s.boundary with
  | none => rw [hbb] at hb; simp at hb
  | some bd =>
    rw [mpExtract_setDl]

theorem reach_boundary (e : Env) (trailer : Bytes) (st : St) (ps : List Part) (c : Bytes) (s : St)
    (h : Reach e trailer st ps c s) : s.boundary = st.boundary := by
  cases h with
  | hdr k rest t w h1 h2 h3 h4 h5 =>
    rw [h5]
    unfold withBuf
    split <;> exact dwrParts_boundary e k st
  | pay k p rest x1 x2 h1 h2 h3 h4 h5 h6 =>
    rw [h6]
    show (dlWriteRange e _ _ x1).2.boundary = _
    rw [dwr_boundary, dwrParts_boundary]

theorem feed_steps (e : Env) (pp trailer : Bytes) (htr : NoHeader trailer) (st : St) (ps : List Part) (stop clear : Bool)
    (hb : Bd pp st) (hbd : st.boundary.isSome) (hok : ∀ p ∈ ps, PartOk e.rx pp p) (htk : Taken e st ps) :
    ∀ (fs : List Bytes) (c w : Bytes) (s : St) (n : Nat) (acc : List Nat), Reach e trailer st ps c s → (∀ f ∈ fs, f ≠ []) →
      c ++ fs.flatten ++ w = partsBytes ps ++ trailer →
      ∃ s', feed e stop clear (setDl n s) fs acc = (acc.reverse ++ fs.map List.length, setDl (n + fs.flatten.length) s') ∧
        Reach e trailer st ps (c ++ fs.flatten) s'
  | [], c, w, s, n, acc, hr, _, _ => ⟨s, by simp [feed], by simpa using hr⟩
  | f :: fs, c, w, s, n, acc, hr, hne, hbody => by
    obtain ⟨s1, h1, h2⟩ := mp_step e pp trailer htr st ps c f (fs.flatten ++ w) s hb hok htk hr (hne f List.mem_cons_self)
      (by simpa only [List.flatten_cons, List.append_assoc] using hbody)
    obtain ⟨s', h3, h4⟩ := feed_steps e pp trailer htr st ps stop clear hb hbd hok htk fs (c ++ f) w s1 (n + f.length) (f.length :: acc) h2
      (fun g hg => hne g (List.mem_cons_of_mem _ hg)) (by simpa only [List.flatten_cons, List.append_assoc] using hbody)
    refine ⟨s', ?_, by simpa only [List.flatten_cons, List.append_assoc] using h4⟩
    have hbs : (setDl n s).boundary.isSome := by
      have : (setDl n s).boundary = s.boundary := rfl
      rw [this, reach_boundary e trailer st ps c s hr]; exact hbd
    unfold feed
    rw [writeChunkCb_mp e (setDl n s) f hbs, mpExtract_setDl, h1]
    simp only [↓reduceIte, ne_eq, not_true_eq_false, false_and]
    have hsd : setDl ((setDl n s).dlBytes + f.length) (setDl n s1) = setDl (n + f.length) s1 := rfl
    rw [hsd, h3]
    simp [List.append_assoc, Nat.add_assoc]

/-- C05 (fragmentation independence, multipart path, at the write callback): with the boundary known, such a body handed to
`zck_write_chunk_cb` in any sequence of non-empty fragments: every call returns the length of its fragment, and the context at the
end is exactly the one after a single call with the whole body -/
theorem multipart_feed_indep (e : Env) (st : St) (pp : Bytes) (ps : List Part) (trailer : Bytes) (fs : List Bytes)
    (stop clear : Bool) (herr : st.err = false) (hmp : st.mp = {}) (hrx : st.dlRx = .ok pp) (hi : HashInv st)
    (hbd : st.boundary.isSome) (hne : ps ≠ [])
    (hok : ∀ p ∈ ps, PartOk e.rx pp p) (htr : NoHeader trailer) (htk : Taken e st ps)
    (hfs : ∀ f ∈ fs, f ≠ []) (hcat : fs.flatten = partsBytes ps ++ trailer) :
    (feed e stop clear st fs []).1 = fs.map List.length ∧
    (feed e stop clear st fs []).2 = (feed e stop clear st [partsBytes ps ++ trailer] []).2 ∧
    (feed e stop clear st [partsBytes ps ++ trailer] []).1 = [(partsBytes ps ++ trailer).length] := by
  have hb : Bd pp st := ⟨herr, hmp, hrx, hi⟩
  have h0 := reach_nil e trailer st ps
  have hst : setDl st.dlBytes st = st := rfl
  obtain ⟨s1, a1, a2⟩ := feed_steps e pp trailer htr st ps stop clear hb hbd hok htk fs [] [] st st.dlBytes [] h0 hfs (by simpa using hcat)
  obtain ⟨s2, b1, b2⟩ := feed_steps e pp trailer htr st ps stop clear hb hbd hok htk [partsBytes ps ++ trailer] [] [] st st.dlBytes [] h0
    (fun f hf => List.mem_singleton.mp hf ▸ partsBytes_ne_nil ps trailer hne) (by simp)
  rw [hst] at a1 b1
  simp only [List.nil_append] at a2 b2
  rw [hcat] at a2
  simp only [List.flatten_cons, List.flatten_nil, List.append_nil] at b2
  have e1 := reach_end e pp trailer st ps s1 hok a2
  have e2 := reach_end e pp trailer st ps s2 hok b2
  rw [a1, b1, e1, e2, hcat]
  simp

/-! The first multipart callback compiles the two patterns and then does what it does on `compiled st`. -/

/-- the context once `gen_regex` has compiled the two patterns for the boundary -/
def compiled (st : St) : St :=
  { st with dlRx := .ok (partPattern (st.boundary.getD [])), endRx := .ok (endPattern (st.boundary.getD [])) }

theorem mpExtract_compile (e : Env) (st : St) (b : Bytes) (he : st.err = false) (hn : st.dlRx = .null)
    (h1 : e.rx.comp (partPattern (st.boundary.getD [])) = true) (h2 : e.rx.comp (endPattern (st.boundary.getD [])) = true) :
    mpExtract e st b = mpExtract e (compiled st) b := by
  unfold mpExtract
  have he' : (compiled st).err = false := he
  rw [he, he']
  simp only [Bool.false_eq_true, ↓reduceIte]
  have hj : mpJoin (compiled st) b = ((mpJoin st b).1, compiled (mpJoin st b).2) := by
    unfold mpJoin
    have hm : (compiled st).mp = st.mp := rfl
    rw [hm]
    cases st.mp.buffer <;> rfl
  rw [hj]
  have hjn : (mpJoin st b).2.dlRx = .null := by
    unfold mpJoin; cases st.mp.buffer <;> exact hn
  have hjb : (mpJoin st b).2.boundary = st.boundary := by
    unfold mpJoin; cases st.mp.buffer <;> rfl
  have e1 : mpEnsureRx e (mpJoin st b).2 = (true, compiled (mpJoin st b).2) := by
    unfold mpEnsureRx
    rw [hjn]
    simp only [genRegex, hjb, h1, h2, not_true_eq_false, ↓reduceIte]
    unfold compiled
    rw [hjb]
  have e2 : mpEnsureRx e (compiled (mpJoin st b).2) = (true, compiled (mpJoin st b).2) := by
    unfold mpEnsureRx
    rfl
  rw [e1, e2]

theorem writeChunkCb_compile (e : Env) (st : St) (f : Bytes) (he : st.err = false) (hn : st.dlRx = .null) (hbd : st.boundary.isSome)
    (h1 : e.rx.comp (partPattern (st.boundary.getD [])) = true) (h2 : e.rx.comp (endPattern (st.boundary.getD [])) = true) :
    writeChunkCb e st f = writeChunkCb e (compiled st) f := by
  rw [writeChunkCb_mp e st f hbd, writeChunkCb_mp e (compiled st) f hbd, mpExtract_compile e st f he hn h1 h2]
  rfl

def mpRx : Rx := { C17.toyRx with part := fun _ _ => some (0, 1, 2, 3) }
def mpEnv : Env := { C17.toyEnv with rx := mpRx }
def mpSt : St := { C17.toySt with dlRx := .ok [], endRx := .ok [], boundary := some [] }
/-- part headers "0-2" and "3-4": the toy pattern finds the two numbers at [0,1) and [2,3) -/
def part1 : Part := ⟨[48, 45, 50], [1, 2, 3]⟩
def part2 : Part := ⟨[51, 45, 52], [4, 5]⟩

theorem part1_ok : PartOk mpEnv.rx [] part1 :=
  ⟨by unfold NoEarly; decide, by decide, by decide, ⟨0, 1, 2, 3, rfl, by decide, by decide, by decide, by decide, by decide⟩⟩
theorem part2_ok : PartOk mpEnv.rx [] part2 :=
  ⟨by unfold NoEarly; decide, by decide, by decide, ⟨0, 1, 2, 3, rfl, by decide, by decide, by decide, by decide, by decide⟩⟩

/-- the hypotheses of `multipart_whole` hold of a two-part body with the trailer CR LF "--", and its conclusion can be
observed: both chunks land at their offsets and are valid, the trailer is kept -/
example : Taken mpEnv mpSt [part1, part2] ∧ NoHeader [13, 10, 45, 45] ∧
    (mpExtract mpEnv mpSt (partsBytes [part1, part2] ++ [13, 10, 45, 45])).2.file = [9, 9, 9, 9, 9, 9, 1, 2, 3, 4, 5] ∧
    (mpExtract mpEnv mpSt (partsBytes [part1, part2] ++ [13, 10, 45, 45])).2.valid = [1, 1, 1] ∧
    (mpExtract mpEnv mpSt (partsBytes [part1, part2] ++ [13, 10, 45, 45])).2.mp.buffer = some [13, 10, 45, 45] := by
  have ht : Taken mpEnv mpSt [part1, part2] := by unfold Taken Taken Taken; decide
  have hn : NoHeader [13, 10, 45, 45] := fun j r => (nofun : Sum.inl j ≠ Sum.inr r)
  refine ⟨ht, hn, ?_⟩
  rw [multipart_whole mpEnv mpSt [] [part1, part2] [13, 10, 45, 45] rfl rfl rfl (List.cons_ne_nil _ _)
    (fun p hp => by
      rcases List.mem_cons.1 hp with rfl | hp
      · exact part1_ok
      · exact List.mem_singleton.1 hp ▸ part2_ok) hn ht]
  decide

/-- non-vacuity: the two-part toy body delivered one byte per call -/
example : let body := partsBytes [part1, part2] ++ [13, 10, 45, 45]
    (feed mpEnv true false { mpSt with boundary := some [] } (body.map fun b => [b]) []).2.file = [9, 9, 9, 9, 9, 9, 1, 2, 3, 4, 5] ∧
    (feed mpEnv true false { mpSt with boundary := some [] } (body.map fun b => [b]) []).2.valid = [1, 1, 1] ∧
    (feed mpEnv true false { mpSt with boundary := some [] } (body.map fun b => [b]) []).1 = body.map fun _ => 1 := by
  decide +kernel

end Zck.C05
