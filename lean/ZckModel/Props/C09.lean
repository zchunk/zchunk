/-
C09 — Validity scan classifies every chunk exactly and is side-effect free.
What is proved about the model of `validate_checksums` (= `zck_validate_checksums`, `zck_find_valid_chunks`) and
`zck_validate_data_checksum`, for every on-disk state of the file, read off the closed forms `Reader.scanLoop_eq` /
`Reader.validateChecksums_eq`:
* after either validation the descriptor is back at the start of the data and the running whole-data checksum is fresh — so a
  read started afterwards begins exactly as a read without them;
* the data-checksum verdict is 1 only for a complete data section that hashes to the data checksum;
* the mark of a chunk of a running index is computed from the bytes at the chunk's own extent, wherever the file ends, and is 1
  exactly when the chunk is present (`scanLoop_exact`, `find_valid_exact`);
* the verdict of the scan is success exactly when every chunk was marked valid and the bytes of the whole data section hash to
  the data checksum, with all chunks marked failed when only the data checksum fails (`scan_verdict`); behind a detached header
  only the first entry is looked at (`scan_detached`).
The models have no write operation at all (they are functions of the file `f`, which they cannot change); that the real code
does not write is checked by comparing the file before and after.
-/
import ZckModel.Props.C09Marks

namespace Zck.C09
open Zck.Format Zck.Reader Zck.C04

theorem validateChecksums_restores (H : HashFn) (f : Bytes) (c : Ctx) (he : c.err = false) :
    (validateChecksums H f c).2.pos = dataOff c ∧ (validateChecksums H f c).2.fullHash = some [] ∧
    (validateChecksums H f c).2.hdr = c.hdr ∧ (validateChecksums H f c).2.dict = c.dict ∧
    (validateChecksums H f c).2.data = c.data ∧ (validateChecksums H f c).2.dc = c.dc ∧
    (validateChecksums H f c).2.dataIdx = c.dataIdx ∧ (validateChecksums H f c).2.err = false := by
  rw [validateChecksums_eq H f c he]
  exact ⟨rfl, rfl, rfl, rfl, rfl, rfl, rfl, he⟩

theorem validateData_restores (H : HashFn) (f : Bytes) (c : Ctx) (he : c.err = false) :
    (validateData H f c).2.pos = dataOff c ∧ (validateData H f c).2.fullHash = some [] ∧
    (validateData H f c).2.hdr = c.hdr ∧ (validateData H f c).2.dict = c.dict := by
  rw [validateData_eq H f c he]
  by_cases h4 : flag4 c = true
  · rw [if_pos h4]
    have := validateChecksums_restores H f c he
    exact ⟨this.1, this.2.1, this.2.2.1, this.2.2.2.1⟩
  · rw [if_neg h4]; exact ⟨rfl, rfl, rfl, rfl⟩

theorem validateData_verdict (H : HashFn) (f : Bytes) (c : Ctx) (he : c.err = false) (h4 : flag4 c = false)
    (h1 : (validateData H f c).1 = 1) :
    (fileRead f (dataOff c) c.hdr.dataLen).length = c.hdr.dataLen ∧
    H c.hdr.hashType (fileRead f (dataOff c) c.hdr.dataLen) = some c.hdr.dataDigest := by
  rw [validateData_eq H f c he, h4] at h1
  exact Classical.byContradiction fun hc => by rw [if_neg (by simp), if_neg hc] at h1; cases h1

theorem scan_value_exact (H : HashFn) (f : Bytes) (hdr : Hdr) (ch : Chunk) (pos : Nat) (d : Bytes)
    (hd : H hdr.chunkHashType (fileRead f pos ch.compLen) = some d) :
    scanValue H hdr ch (readPieces f pos ch.compLen).1 (readPieces f pos ch.compLen).2.2 = 1
    ↔ ((fileRead f pos ch.compLen).length = ch.compLen ∧
       (if ch.compLen = 0 then zeros d.length else d) = ch.digest) := by
  show markAt H f hdr pos ch = 1 ↔ _
  rw [markAt_eq_one_iff, hd]
  simp

theorem scanLoop_mark (H : HashFn) (f : Bytes) (hdr : Hdr) (useFull : Bool) (hdet : hdr.detached = false)
    (cs : List Chunk) (k pos : Nat) (full : Option Bytes) (valid : List Int) (allGood : Bool)
    (hdict : k = 0 → ∀ c, cs.head? = some c → c.len = 0 → c.compLen = 0)
    (i : Nat) (tc : Chunk) (hi : cs[i]? = some tc) (hz : tc.compLen ≠ 0) (hlt : k + i < valid.length) :
    (scanLoop H f hdr useFull cs k pos full valid allGood).2.2.1.getD (k + i) 0 =
      markAt H f hdr (pos + C13.sumLen (cs.take i)) tc := by
  have hil : i < cs.length := lt_length_of_getElem? hi
  rw [List.getD_eq_getElem?_getD, scanLoop_eq, setMarks_getElem?, scanMarks_length H f hdr hdet, if_pos ⟨by omega, by omega, hlt⟩, Nat.add_sub_cancel_left,
    scanMarks_stored H f hdr cs k _ i tc hdict hi (by simp [hdet]) hz]
  rfl

/-- the loop form of `find_valid_exact`: `pos` is where the entries `cs` are stored, or the file has ended before that place -/
theorem scanLoop_exact (H : HashFn) (f : Bytes) (hdr : Hdr) (useFull : Bool) (hdet : hdr.detached = false) :
    ∀ (cs : List Chunk) (k s pos : Nat) (full : Option Bytes) (valid : List Int) (allGood : Bool),
    C13.RunFrom k s cs →
    (pos = hdr.lead + hdr.headerLen + s ∨ (f.length ≤ pos ∧ f.length < hdr.lead + hdr.headerLen + s)) →
    (k = 0 → ∀ c, cs.head? = some c → c.len = 0 → c.compLen = 0) →
    ∀ (i : Nat) (tc : Chunk), cs[i]? = some tc → tc.compLen ≠ 0 → k + i < valid.length →
      ((scanLoop H f hdr useFull cs k pos full valid allGood).2.2.1.getD (k + i) 0 = 1 ∧
          Present H hdr.chunkHashType (hdr.lead + hdr.headerLen) f tc) ∨
      ((scanLoop H f hdr useFull cs k pos full valid allGood).2.2.1.getD (k + i) 0 = -1 ∧
          ¬ Present H hdr.chunkHashType (hdr.lead + hdr.headerLen) f tc) := by
  intro cs k s pos full valid allGood hr hpos hdict i tc hi hz hlt
  have hst := C13.run_start hr hi
  rw [scanLoop_mark H f hdr useFull hdet cs k pos full valid allGood hdict i tc hi hz hlt]
  rcases markAt_range H f hdr (pos + C13.sumLen (cs.take i)) tc with h | h
  · exact Or.inl ⟨h, markAt_run_present H f hdr _ pos hr hi hz (hpos.imp_right And.left) h⟩
  · refine Or.inr ⟨h, fun hp => ?_⟩
    rcases hpos with rfl | ⟨_, hs⟩
    · -- the chunk is looked for at its own extent
      rw [Nat.add_assoc, ← hst, (markAt_eq_one H f hdr _ tc hz).mpr hp] at h; cases h
    · -- the file ends before this part of the index
      have := hp.1; omega

/-- on a file with data, whatever its state (chunks absent, zeroed, garbage; truncated anywhere; over-long): a chunk with stored
bytes is marked valid only if it is present, a chunk that is not present is marked failed, and every such chunk gets one of the
two marks.  Not "if": when every chunk is present but the whole-data checksum is wrong all are marked failed, the override the
property names. -/
theorem find_valid_exact (H : HashFn) (f : Bytes) (c : Ctx) (hdet : c.hdr.detached = false) (herr : c.err = false)
    (hrun : C13.RunFrom 0 0 c.hdr.chunks) (hdict : ∀ d, c.hdr.chunks.head? = some d → d.len = 0 → d.compLen = 0)
    (hlen : c.valid.length = c.hdr.chunks.length)
    (k : Nat) (tc : Chunk) (hk : c.hdr.chunks[k]? = some tc) (hz : tc.compLen ≠ 0) :
    ((validateChecksums H f c).2.valid.getD k 0 = 1 → Present H c.hdr.chunkHashType (c.hdr.lead + c.hdr.headerLen) f tc) ∧
    (¬ Present H c.hdr.chunkHashType (c.hdr.lead + c.hdr.headerLen) f tc → (validateChecksums H f c).2.valid.getD k 0 = -1) ∧
    ((validateChecksums H f c).2.valid.getD k 0 = 1 ∨ (validateChecksums H f c).2.valid.getD k 0 = -1) := by
  have hklt : k < c.valid.length := by rw [hlen]; exact lt_length_of_getElem? hk
  have key := scanLoop_exact H f c.hdr (decide (¬ flag4 c = true)) hdet c.hdr.chunks 0 0 (Reader.dataOff c) (some []) c.valid true hrun
    (Or.inl (by simp [Reader.dataOff])) (fun _ => hdict) k tc hk hz (by omega)
  rw [Nat.zero_add, scanLoop_eq] at key
  replace key : ((setMarks c.valid 0 (scanOf H f c.hdr)).getD k 0 = 1 ∧ _) ∨ ((setMarks c.valid 0 (scanOf H f c.hdr)).getD k 0 = -1 ∧ _) := key
  rw [validateChecksums_valid H f c herr]
  split
  · -- every chunk matched, the data checksum did not: all marks are overridden
    have hm : ((setMarks c.valid 0 (scanOf H f c.hdr)).map (fun _ => (-1 : Int))).getD k 0 = -1 := by
      rw [List.getD_eq_getElem?_getD, List.getElem?_map, List.getElem?_eq_getElem (by rw [setMarks_length]; exact hklt)]; rfl
    rw [hm]
    exact ⟨fun h1 => by omega, fun _ => rfl, Or.inr rfl⟩
  · rcases key with ⟨k1, k2⟩ | ⟨k1, k2⟩
    · exact ⟨fun _ => k2, fun hn => absurd k2 hn, Or.inl k1⟩
    · exact ⟨fun h1 => by rw [k1] at h1; omega, fun _ => k1, Or.inr k1⟩

theorem scanLoop_allGood (H : HashFn) (f : Bytes) (hdr : Hdr) (useFull : Bool) (hdet : hdr.detached = false) :
    ∀ (cs : List Chunk) (k pos : Nat) (full : Option Bytes) (valid : List Int) (ag : Bool), k + cs.length ≤ valid.length →
      ((scanLoop H f hdr useFull cs k pos full valid ag).2.2.2 = true ↔
        (ag = true ∧ ∀ i, i < cs.length → (scanLoop H f hdr useFull cs k pos full valid ag).2.2.1.getD (k + i) 0 = 1)) := by
  intro cs k pos full valid ag hl
  have hm := scanMarks_length H f hdr hdet cs k pos
  have hg : ∀ i, i < cs.length → (setMarks valid k (scanMarks H f hdr cs k pos)).getD (k + i) 0 = (scanMarks H f hdr cs k pos).getD i 0 :=
    fun i hi => by
      rw [List.getD_eq_getElem?_getD, setMarks_getElem?, if_pos ⟨by omega, by omega, by omega⟩, Nat.add_sub_cancel_left,
        List.getD_eq_getElem?_getD]
  rw [scanLoop_eq]
  show (ag && (scanMarks H f hdr cs k pos).all (· = 1)) = true ↔ _
  rw [Bool.and_eq_true, all_one_iff, hm]
  exact and_congr_right fun _ => forall_congr' fun i => imp_congr_right fun hi => by rw [hg i hi]

theorem scanLoop_full (H : HashFn) (f : Bytes) (hdr : Hdr) (hdet : hdr.detached = false) :
    ∀ (cs : List Chunk) (k pos : Nat) (full : Option Bytes) (valid : List Int) (ag : Bool), k + cs.length ≤ valid.length →
      (k = 0 → ∀ c, cs.head? = some c → c.len = 0 → c.compLen = 0) →
      (∀ i, i < cs.length → (scanLoop H f hdr true cs k pos full valid ag).2.2.1.getD (k + i) 0 = 1) →
      (scanLoop H f hdr true cs k pos full valid ag).2.1 = full.map (· ++ fileRead f pos (C13.sumLen cs)) := by
  intro cs k pos full valid ag _ hdict _
  rw [scanLoop_eq, scanLen_eq hdr hdet cs k hdict]
  rfl

theorem scan_verdict (H : HashFn) (f : Bytes) (c : Ctx) (hdet : c.hdr.detached = false) (he : c.err = false)
    (h4 : flag4 c = false) (hlen : c.valid.length = c.hdr.chunks.length)
    (hdict : ∀ d, c.hdr.chunks.head? = some d → d.len = 0 → d.compLen = 0) :
    let marks := (scanLoop H f c.hdr true c.hdr.chunks 0 (dataOff c) (some []) c.valid true).2.2.1
    let allOne := ∀ i, i < c.hdr.chunks.length → marks.getD i 0 = 1
    let dataOk := H c.hdr.hashType (fileRead f (dataOff c) (C13.sumLen c.hdr.chunks)) = some c.hdr.dataDigest
    ((validateChecksums H f c).1 = 1 ↔ (allOne ∧ dataOk)) ∧
    (allOne → dataOk → (validateChecksums H f c).2.valid = marks) ∧
    (allOne → ¬ dataOk → (validateChecksums H f c).1 = -1 ∧ (validateChecksums H f c).2.valid = marks.map (fun _ => -1)) ∧
    (¬ allOne → (validateChecksums H f c).1 = -1 ∧ (validateChecksums H f c).2.valid = marks) := by
  intro marks allOne dataOk
  have hm : setMarks c.valid 0 (scanOf H f c.hdr) = scanOf H f c.hdr :=
    setMarks_full (by rw [hlen]; exact scanMarks_length H f c.hdr hdet _ _ _)
  have hmarks : marks = scanOf H f c.hdr := by simp only [marks]; rw [scanLoop_eq]; exact hm
  have hall : (scanOf H f c.hdr).all (· = 1) = true ↔ allOne := by
    rw [all_one_iff, show (scanOf H f c.hdr).length = c.hdr.chunks.length from scanMarks_length H f c.hdr hdet _ _ _, ← hmarks]
  have hbad : dataBad H f c.hdr ↔ allOne ∧ ¬ dataOk := by
    have h4' : ¬ c.hdr.flags / 4 % 2 = 1 := by simpa [flag4] using h4
    unfold dataBad
    rw [hall, scanLen_eq c.hdr hdet _ 0 (fun _ => hdict)]
    simp only [h4', hdet, Bool.false_eq_true, or_self, not_false_eq_true, true_and]
    exact Iff.rfl
  rw [validateChecksums_verdict H f c he, validateChecksums_valid H f c he, hm, ← hmarks]
  simp only [hmarks ▸ hall, hbad]
  by_cases ha : allOne <;> by_cases hd : dataOk <;> simp [ha, hd]

/-- behind a detached header only the first entry (the dictionary) is scanned: every other mark stays as it was -/
theorem scan_detached (H : HashFn) (f : Bytes) (hdr : Hdr) (useFull : Bool) (hdet : hdr.detached = true)
    (ch : Chunk) (rest : List Chunk) (pos : Nat) (full : Option Bytes) (valid : List Int) (ag : Bool) (j : Nat) (hj : j ≠ 0) :
    (scanLoop H f hdr useFull (ch :: rest) 0 pos full valid ag).2.2.1.getD j 0 = valid.getD j 0 := by
  rw [scanLoop_eq, List.getD_eq_getElem?_getD, setMarks_getElem?, List.getD_eq_getElem?_getD]
  have hl := scanMarks_length_detached H f hdr hdet (ch :: rest) 0 pos
  rw [if_neg (by omega)]

theorem verdict_detached (H : HashFn) (f : Bytes) (c : Ctx) (hdet : c.hdr.detached = true) (he : c.err = false) :
    (validateChecksums H f c).1 = 1 ∨ (validateChecksums H f c).1 = -1 := by
  rw [validateChecksums_verdict H f c he]
  split
  · exact Or.inl rfl
  · exact Or.inr rfl

end Zck.C09
