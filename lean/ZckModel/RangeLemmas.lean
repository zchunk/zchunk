/- Why `range_add` of a range that starts above all those present is `C10.snoc`: the walk reaches the end of the list
(`walk_append`), the merge then looks at the last two ranges only (`merge_append`); and what `snoc` does to order,
length and cover.  The property theorems are in Props/C10.lean. -/
import ZckModel.Pred.C10

namespace Zck.C10
open Zck.Range

/-- ascending, disjoint and non-adjacent inclusive ranges -/
def Sorted : List (Nat × Nat) → Prop
  | [] => True
  | [a] => a.1 ≤ a.2
  | a :: b :: r => a.1 ≤ a.2 ∧ a.2 + 1 < b.1 ∧ Sorted (b :: r)

def EndsBelow (items : List (Nat × Nat)) (s : Nat) : Prop := ∀ p ∈ items, p.2 < s

def covers (items : List (Nat × Nat)) (x : Nat) : Prop := ∃ p ∈ items, p.1 ≤ x ∧ x ≤ p.2

theorem Sorted.tail {a : Nat × Nat} {r : List (Nat × Nat)} (h : Sorted (a :: r)) : Sorted r := by
  cases r with
  | nil => trivial
  | cons b r => exact h.2.2

theorem Sorted.head {a : Nat × Nat} {r : List (Nat × Nat)} (h : Sorted (a :: r)) : a.1 ≤ a.2 := by
  cases r with
  | nil => exact h
  | cons b r => exact h.1

theorem EndsBelow.tail {a : Nat × Nat} {r : List (Nat × Nat)} {s : Nat} (h : EndsBelow (a :: r) s) : EndsBelow r s :=
  fun q hq => h q (List.mem_cons_of_mem _ hq)

theorem EndsBelow.mono {r : List (Nat × Nat)} {s t : Nat} (h : EndsBelow r s) (hle : s ≤ t) : EndsBelow r t :=
  fun q hq => Nat.lt_of_lt_of_le (h q hq) hle

theorem endsBelow_cons {a : Nat × Nat} {r : List (Nat × Nat)} {s : Nat} :
    EndsBelow (a :: r) s ↔ a.2 < s ∧ EndsBelow r s :=
  List.forall_mem_cons

theorem covers_cons {a : Nat × Nat} {r : List (Nat × Nat)} {x : Nat} :
    covers (a :: r) x ↔ (a.1 ≤ x ∧ x ≤ a.2) ∨ covers r x := by
  simp only [covers, List.mem_cons, exists_eq_or_imp]

theorem walk_append (s e : Nat) (items : List (Nat × Nat)) (hs : Sorted items)
    (hb : EndsBelow items s) : walk s e items = (items ++ [(s, e)], true) := by
  induction items with
  | nil => rfl
  | cons p rest ih =>
    rw [walk, if_pos (Nat.lt_of_le_of_lt hs.head (endsBelow_cons.1 hb).1), ih hs.tail hb.tail]
    rfl

theorem wsub1_pos (x : Nat) (h : 0 < x) : wsub1 x = x - 1 := by
  unfold wsub1; split <;> omega

theorem mergeGo_gap (cur b : Nat × Nat) (rest : List (Nat × Nat)) (cnt : Nat) (h : cur.2 + 1 < b.1) :
    mergeGo cur (b :: rest) cnt = (cur :: (mergeGo b rest cnt).1, (mergeGo b rest cnt).2) := by
  rw [mergeGo, wsub1_pos b.1 (Nat.zero_lt_of_lt h), if_neg (by omega)]

theorem mergeGo_adjacent (cur b : Nat × Nat) (rest : List (Nat × Nat)) (cnt : Nat) (h : cur.2 + 1 = b.1) (hb : b.1 ≤ b.2) :
    mergeGo cur (b :: rest) cnt = mergeGo (cur.1, b.2) rest (cnt - 1) := by
  rw [mergeGo, wsub1_pos b.1 (h ▸ Nat.succ_pos _), if_pos (by omega), if_pos (by omega)]

/-- `c` counts the ranges the merge has passed: it arrives with one more than there were ranges, and leaves with
as many as there are -/
theorem mergeGo_append (s e : Nat) (p : Nat × Nat) (rest : List (Nat × Nat)) (c : Nat)
    (hs : Sorted (p :: rest)) (hb : EndsBelow (p :: rest) s) (hse : s ≤ e) :
    mergeGo p (rest ++ [(s, e)]) (c + (rest.length + 2)) =
      (snoc (p :: rest) s e, c + (snoc (p :: rest) s e).length) := by
  induction rest generalizing p c with
  | nil =>
    have hlt : p.2 < s := (endsBelow_cons.1 hb).1
    rw [List.nil_append, snoc]
    by_cases h : p.2 + 1 = s
    · rw [mergeGo_adjacent p (s, e) [] _ h hse, if_pos h]; rfl
    · rw [mergeGo_gap p (s, e) [] _ (by omega), if_neg h]; rfl
  | cons q r ih =>
    rw [List.cons_append, mergeGo_gap p q _ _ hs.2.1, List.length_cons,
      show c + (r.length + 1 + 2) = c + 1 + (r.length + 2) by omega, ih q (c + 1) hs.tail hb.tail, snoc,
      List.length_cons, Nat.add_assoc c 1, Nat.add_comm 1]

theorem merge_append (s e : Nat) (items : List (Nat × Nat))
    (hs : Sorted items) (hb : EndsBelow items s) (hse : s ≤ e) :
    merge (items ++ [(s, e)]) (items.length + 1) = (snoc items s e, (snoc items s e).length) := by
  cases items with
  | nil => rfl
  | cons p rest => simpa [merge] using mergeGo_append s e p rest 0 hs hb hse

theorem snoc_length (items : List (Nat × Nat)) (s e : Nat) :
    (snoc items s e).length = items.length + 1 ∨ (snoc items s e).length = items.length := by
  fun_induction snoc items s e with
  | case1 | case2 | case3 => simp
  | case4 p q r s e ih => simp only [List.length_cons] at ih ⊢; simp; omega

theorem snoc_cons_head (q : Nat × Nat) (r : List (Nat × Nat)) (s e : Nat) :
    ∃ y t, snoc (q :: r) s e = y :: t ∧ y.1 = q.1 := by
  cases r with
  | nil => simp only [snoc]; split <;> simp
  | cons q2 r2 => simp [snoc]

theorem snoc_sorted (items : List (Nat × Nat)) (s e : Nat) (hs : Sorted items)
    (hb : EndsBelow items s) (hse : s ≤ e) :
    Sorted (snoc items s e) ∧ EndsBelow (snoc items s e) (e + 1) := by
  fun_induction snoc items s e with
  | case1 s e => exact ⟨hse, by simp [EndsBelow]⟩
  | case2 p e =>
    have hp : p.1 ≤ p.2 := hs
    exact ⟨by show p.1 ≤ e; omega, by simp [EndsBelow]⟩
  | case3 p s e h =>
    have hp : p.1 ≤ p.2 := hs
    have hlt : p.2 < s := hb p (by simp)
    exact ⟨⟨hp, by show p.2 + 1 < s; omega, hse⟩, by simp [EndsBelow]; omega⟩
  | case4 p q r s e ih =>
    have ⟨h1, h2⟩ := ih hs.tail hb.tail hse
    obtain ⟨y, t, hy, hy1⟩ := snoc_cons_head q r s e
    rw [hy] at h1 h2 ⊢
    have := hb p (by simp)
    exact ⟨⟨hs.1, by rw [hy1]; exact hs.2.1, h1⟩, endsBelow_cons.2 ⟨by omega, h2⟩⟩

theorem snoc_covers (items : List (Nat × Nat)) (s e x : Nat) (hs : Sorted items)
    (hb : EndsBelow items s) (hse : s ≤ e) :
    covers (snoc items s e) x ↔ covers items x ∨ (s ≤ x ∧ x ≤ e) := by
  fun_induction snoc items s e with
  | case1 s e => simp [covers]
  | case2 p e =>
    have hp : p.1 ≤ p.2 := hs
    simp only [covers, List.mem_singleton, exists_eq_left]
    omega
  | case3 p s e h => simp [covers]
  | case4 p q r s e ih => rw [covers_cons, covers_cons, ih hs.tail hb.tail hse, or_assoc]

end Zck.C10
