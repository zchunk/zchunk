/-
C09 — reads started after validations.  The validators (`zck_validate_checksums` / `zck_find_valid_chunks`,
`zck_validate_data_checksum`) called any number of times, in any order, on a context that has not been read from leave it in a
state from which the streaming reader behaves as from a fresh open: the invariant of `Props/C02Stream.lean` holds again
(`validations_fresh`), so everything proved about reads from a fresh context — soundness (`Decoded`, which `decoded_content` of
`Props/C02Decode.lean` turns into the reference decoder's verdict), and on a well-formed file success of every read schedule with
the exact content and a successful close — holds for reads started after the validations (`reads_after_validations_sound`,
`reads_after_validations_complete`).
-/
import ZckModel.Props.C01Stream
import ZckModel.ReaderScan

namespace Zck.Stream
open Zck.Format Zck.Reader

section
variable {H : HashFn} {D : Decomp} {f : Bytes} {h : Hdr}

/-- a context that has been opened and possibly validated, but not read from -/
structure FreshCtx (f : Bytes) (h : Hdr) (c : Ctx) : Prop where
  hdr : c.hdr = h
  noerr : c.err = false
  started : c.started = true
  dict : c.dict = none
  eof : c.dataEof = false
  idx : c.dataIdx = none
  data : c.data = []
  dc : c.dc = []
  loc : c.dataLoc = 0
  pos : c.pos = dOff h
  fhash : f4 h = true ∨ c.fullHash = some []

theorem fresh_open : FreshCtx f h (openCtx h) := ⟨rfl, rfl, rfl, rfl, rfl, rfl, rfl, rfl, rfl, rfl, Or.inr rfl⟩

theorem fresh_P {c : Ctx} (hc : FreshCtx f h c) : P (H := H) (D := D) (f := f) (h := h) [] c :=
  Start.toP ⟨⟨hc.hdr, hc.noerr, hc.started, hc.dict⟩, hc.eof, hc.idx, hc.data, hc.dc, hc.loc, hc.pos, hc.fhash, rfl, rfl,
    nofun⟩

theorem validateChecksums_ctx (c : Ctx) (he : c.err = false) :
    ∃ v, (validateChecksums H f c).2 = { c with valid := v, chunkHash := none, pos := dataOff c, fullHash := some [] } := by
  rw [validateChecksums_eq H f c he]
  exact ⟨_, rfl⟩

theorem validateData_ctx (c : Ctx) (he : c.err = false) :
    (∃ v, (validateData H f c).2 = { c with valid := v, chunkHash := none, pos := dataOff c, fullHash := some [] }) ∨
    (validateData H f c).2 = { c with pos := dataOff c, fullHash := some [] } := by
  rw [validateData_eq H f c he]
  by_cases h4 : flag4 c = true
  · rw [if_pos h4]; exact Or.inl (validateChecksums_ctx c he)
  · rw [if_neg h4]; exact Or.inr rfl

theorem fresh_validateChecksums {c : Ctx} (hc : FreshCtx f h c) : FreshCtx f h (validateChecksums H f c).2 := by
  obtain ⟨v, hv⟩ := validateChecksums_ctx (H := H) (f := f) c hc.noerr
  rw [hv]
  exact { hc with pos := dataOff_eq hc.hdr, fhash := Or.inr rfl }

theorem fresh_validateData {c : Ctx} (hc : FreshCtx f h c) : FreshCtx f h (validateData H f c).2 := by
  rcases validateData_ctx (H := H) (f := f) c hc.noerr with ⟨v, hv⟩ | hv <;> rw [hv] <;>
    exact { hc with pos := dataOff_eq hc.hdr, fhash := Or.inr rfl }

/-- the validations a consumer may run -/
inductive Val where
  | all       -- zck_validate_checksums / zck_find_valid_chunks
  | data      -- zck_validate_data_checksum
deriving Repr, DecidableEq

def validations (H : HashFn) (f : Bytes) : Ctx → List Val → Ctx
  | c, [] => c
  | c, .all :: vs => validations H f (validateChecksums H f c).2 vs
  | c, .data :: vs => validations H f (validateData H f c).2 vs

theorem validations_fresh : ∀ (vs : List Val) (c : Ctx), FreshCtx f h c → FreshCtx f h (validations H f c vs)
  | [], _, hc => hc
  | .all :: vs, _, hc => validations_fresh vs _ (fresh_validateChecksums hc)
  | .data :: vs, _, hc => validations_fresh vs _ (fresh_validateData hc)

theorem reads_after_validations_sound (hr : C13.RunFrom 0 0 h.chunks) (vs : List Val) (init : List Nat) (nl : Nat)
    (hall : ∀ r ∈ (reads H D f (validations H f (openCtx h) vs) init).1, 0 ≤ r.ret)
    (hlast : 0 ≤ (compRead H D f (reads H D f (validations H f (openCtx h) vs) init).2 nl).1.ret)
    (hshort : (compRead H D f (reads H D f (validations H f (openCtx h) vs) init).2 nl).1.ret < nl) :
    Decoded H D f h (outOf (reads H D f (validations H f (openCtx h) vs) init).1 ++
      (compRead H D f (reads H D f (validations H f (openCtx h) vs) init).2 nl).1.bytes) :=
  (stream_sound_from hr _ (fresh_P (validations_fresh vs _ fresh_open)) init nl hall hlast hshort).1

theorem reads_after_validations_complete (wf : WF H D f h) (vs : List Val) (init : List Nat) (nl : Nat) :
    (∀ r ∈ (reads H D f (validations H f (openCtx h) vs) init).1, 0 ≤ r.ret ∧ r.ret = r.bytes.length) ∧
    0 ≤ (compRead H D f (reads H D f (validations H f (openCtx h) vs) init).2 nl).1.ret ∧
    ((compRead H D f (reads H D f (validations H f (openCtx h) vs) init).2 nl).1.ret < nl →
      outOf (reads H D f (validations H f (openCtx h) vs) init).1 ++
        (compRead H D f (reads H D f (validations H f (openCtx h) vs) init).2 nl).1.bytes = doneFrom D f h 1 (h.chunks.drop 1) ∧
      close H (compRead H D f (reads H D f (validations H f (openCtx h) vs) init).2 nl).2 = true) :=
  have := read_back_from wf _ (fresh_P (validations_fresh vs _ fresh_open)) init nl
  ⟨this.1, this.2.1, this.2.2.2⟩

end
end Zck.Stream
