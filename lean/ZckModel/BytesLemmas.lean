/-
Byte strings as the models share them: the bytes of a file in a range (`Reader.fileRead`; `Format.slice` is
`fileRead` with a bounds check, and so is `Header.rdSlice`: HeaderLemmas), and a file seen as an infinite string that reads 0 behind its
end (`f.getD i 0`), the view in which `Copy.writeAt`, `Format.zeros` and `List.set` have pointwise equations.  Also the few
facts about lists in general (`drop`, `mapM`, `flatten`) that more than one region uses.
-/
import ZckModel.Reader
import ZckModel.Copy

namespace Zck

theorem getD_of_length_le {α : Type} (l : List α) (i : Nat) (d : α) (h : l.length ≤ i) : l.getD i d = d := by
  simp [List.getD, List.getElem?_eq_none h]

theorem getD_of_getElem? {α : Type} {l : List α} {j : Nat} {x d : α} (h : l[j]? = some x) : l.getD j d = x := by
  rw [List.getD_eq_getElem?_getD, h]; rfl

theorem getD_append {α : Type} (a b : List α) (i : Nat) (d : α) :
    (a ++ b).getD i d = if i < a.length then a.getD i d else b.getD (i - a.length) d := by
  simp only [List.getD_eq_getElem?_getD, List.getElem?_append]; split <;> rfl

theorem getD_take {α : Type} (l : List α) (n i : Nat) (d : α) :
    (l.take n).getD i d = if i < n then l.getD i d else d := by
  simp only [List.getD_eq_getElem?_getD, List.getElem?_take]; split <;> rfl

theorem getD_drop {α : Type} (l : List α) (n i : Nat) (d : α) : (l.drop n).getD i d = l.getD (n + i) d := by
  simp only [List.getD_eq_getElem?_getD, List.getElem?_drop]

theorem getD_set {α : Type} (l : List α) (k i : Nat) (v d : α) :
    (l.set k v).getD i d = if i = k ∧ k < l.length then v else l.getD i d := by
  simp only [List.getD_eq_getElem?_getD, List.getElem?_set]
  by_cases h : k = i
  · subst h; by_cases hl : k < l.length <;> simp [hl]
  · simp [h, Ne.symm h]

theorem getD_set_of_ne {α : Type} {l : List α} {j k : Nat} {v d : α} (h : j ≠ k) : (l.set k v).getD j d = l.getD j d := by
  rw [getD_set, if_neg fun x => h x.1]

theorem take_succ_getD {α : Type} (l : List α) (n : Nat) (d : α) (h : n < l.length) :
    l.take (n + 1) = l.take n ++ [l.getD n d] := by
  simp [List.getD, List.getElem?_eq_getElem h]

theorem ext_getD {α : Type} (d : α) {a b : List α} (hl : a.length = b.length)
    (h : ∀ i, i < a.length → a.getD i d = b.getD i d) : a = b := by
  apply List.ext_getElem hl
  intro i h1 h2
  simpa [List.getD, List.getElem?_eq_getElem, h1, h2] using h i h1

theorem lt_length_of_getElem? {α : Type} {l : List α} {k : Nat} {x : α} (h : l[k]? = some x) : k < l.length :=
  (List.getElem?_eq_some_iff.mp h).1

theorem drop_add {α : Type} {f a b : List α} {p n : Nat} (h : f.drop p = a ++ b) (hn : a.length = n) : f.drop (p + n) = b := by
  rw [← List.drop_drop, h, ← hn, List.drop_left]

theorem mapM_eq_some_map {α β : Type} (g : α → Option β) (h : α → β) :
    ∀ (xs : List α), (∀ x ∈ xs, g x = some (h x)) → xs.mapM g = some (xs.map h)
  | [], _ => rfl
  | x :: xs, hx => by
    rw [List.mapM_cons, hx x List.mem_cons_self, mapM_eq_some_map g h xs fun y hy => hx y (List.mem_cons_of_mem _ hy)]
    rfl

theorem mapM_zip {α β : Type} (g : α → Option β) : ∀ (xs : List α) (ys : List β), xs.mapM g = some ys →
    ys.length = xs.length ∧ ∀ z ∈ xs.zip ys, g z.1 = some z.2
  | [], ys, h => by
    simp at h; subst h; exact ⟨rfl, fun z hz => by simp at hz⟩
  | x :: rest, ys, h => by
    rw [List.mapM_cons] at h
    cases he : g x with
    | none => rw [he] at h; simp at h
    | some y =>
      cases hr : rest.mapM g with
      | none => rw [he, hr] at h; simp at h
      | some ys' =>
        rw [he, hr] at h
        simp at h
        subst h
        obtain ⟨l, ih⟩ := mapM_zip g rest ys' hr
        refine ⟨by simp [l], fun z hz => ?_⟩
        rw [List.zip_cons_cons, List.mem_cons] at hz
        rcases hz with rfl | hz
        · exact he
        · exact ih z hz

theorem flatten_eq_of_getElem? {α : Type} : ∀ (ls : List (List α)) (j : Nat) (x : List α), ls[j]? = some x →
    ls.flatten = (ls.take j).flatten ++ x ++ (ls.drop (j + 1)).flatten
  | [], _, _, h => by simp at h
  | l :: ls, 0, x, h => by simp_all
  | l :: ls, j + 1, x, h => by
    simp [flatten_eq_of_getElem? ls j x h, List.append_assoc]

namespace Format

theorem length_zeros (n : Nat) : (zeros n).length = n := List.length_replicate ..

theorem getD_zeros (n i : Nat) : (zeros n).getD i 0 = 0 := by
  by_cases h : i < n <;> simp [zeros, List.getD, h]

end Format

namespace Reader
open Format

theorem length_fileRead (f : Bytes) (p n : Nat) : (fileRead f p n).length = min n (f.length - p) := by
  simp [fileRead]

theorem fileRead_zero (f : Bytes) (p : Nat) : fileRead f p 0 = [] := by simp [fileRead]

theorem fileRead_add (f : Bytes) (p a b : Nat) : fileRead f p (a + b) = fileRead f p a ++ fileRead f (p + a) b := by
  unfold fileRead
  rw [List.take_add, List.drop_drop]

theorem drop_eq_fileRead_append (f : Bytes) (p n : Nat) : f.drop p = fileRead f p n ++ f.drop (p + n) := by
  rw [fileRead, ← List.drop_drop, List.take_append_drop]

theorem fileRead_append_eq (f : Bytes) (p : Nat) (a b : Bytes) (ha : a = fileRead f p a.length)
    (hb : b = fileRead f (p + a.length) b.length) : a ++ b = fileRead f p (a ++ b).length := by
  rw [List.length_append, fileRead_add, ← ha, ← hb]

theorem take_fileRead (f : Bytes) (p n c : Nat) : (fileRead f p n).take c = fileRead f p (min c n) := by
  unfold fileRead
  rw [List.take_take]

theorem drop_fileRead (f : Bytes) (p n c : Nat) : (fileRead f p n).drop c = fileRead f (p + c) (n - c) := by
  unfold fileRead
  rw [List.drop_take, List.drop_drop]

theorem fileRead_self (f : Bytes) (p n : Nat) : fileRead f p (fileRead f p n).length = fileRead f p n := by
  conv => rhs; rw [← List.take_length (l := fileRead f p n), take_fileRead]
  congr 1; simp only [length_fileRead]; omega

theorem length_fileRead_le (f : Bytes) (p n : Nat) : (fileRead f p n).length ≤ n := by
  rw [length_fileRead]; exact Nat.min_le_left _ _

theorem fileRead_full_iff {f : Bytes} {p n : Nat} : (fileRead f p n).length = n ↔ n ≤ f.length - p := by
  rw [length_fileRead]; omega

theorem fileRead_full_sub (f : Bytes) (p t a b : Nat) (hfull : (fileRead f p t).length = t) (hab : a + b ≤ t) :
    (fileRead f (p + a) b).length = b := by
  rw [fileRead_full_iff] at *; omega

theorem fileRead_take {f : Bytes} {k p n : Nat} (h : p + n ≤ k) : fileRead (f.take k) p n = fileRead f p n := by
  unfold fileRead
  rw [List.drop_take, List.take_take]
  congr 1
  omega

theorem fileRead_at {f w t : Bytes} {p n : Nat} (hd : f.drop p = w ++ t) (hn : w.length = n) : fileRead f p n = w := by
  unfold fileRead
  rw [hd, List.take_left' hn]

theorem fileRead_append_self (a w t : Bytes) : fileRead (a ++ w ++ t) a.length w.length = w :=
  fileRead_at (t := t) (by simp) rfl

theorem fileRead_congr (f g : Bytes) (p n : Nat) (hf : n ≤ f.length - p) (hg : n ≤ g.length - p)
    (h : ∀ i, p ≤ i → i < p + n → g.getD i 0 = f.getD i 0) : fileRead g p n = fileRead f p n := by
  apply ext_getD 0 (by simp only [length_fileRead]; omega)
  intro i hi
  rw [length_fileRead] at hi
  simp only [fileRead, getD_take, getD_drop, if_pos (show i < n by omega)]
  exact h (p + i) (by omega) (by omega)

/-- `x.length = n` and not `off + n ≤ f.length`: an empty range lies in every file, also behind its end -/
theorem slice_eq_some {f : Bytes} {off n : Nat} {x : Bytes} :
    slice f off n = some x ↔ fileRead f off n = x ∧ x.length = n := by
  unfold slice
  by_cases hn : n = 0
  · subst hn; simp [eq_comm, fileRead_zero]
  · rw [if_neg hn]
    by_cases h : off + n ≤ f.length
    · rw [if_pos h]
      simp only [Option.some.injEq, fileRead]
      refine ⟨fun e => ⟨e, by rw [← e]; simp; omega⟩, fun e => e.1⟩
    · rw [if_neg h]
      simp only [reduceCtorEq, false_iff, not_and]
      rintro rfl
      simp only [length_fileRead]; omega

end Reader

namespace Copy
open Format Reader

/-- the first `n` bytes of `f` seen as a string that reads 0 behind its end: what `writeAt` puts before the bytes it
writes, and what truncating a file to `n` bytes leaves -/
def padTo (f : Bytes) (n : Nat) : Bytes := f.take n ++ zeros (n - f.length)

theorem length_padTo (f : Bytes) (n : Nat) : (padTo f n).length = n := by
  rw [padTo, List.length_append, List.length_take, length_zeros]; omega

theorem getD_padTo (f : Bytes) (n j : Nat) (h : j < n) : (padTo f n).getD j 0 = f.getD j 0 := by
  rw [padTo, getD_append, getD_take, if_pos h, getD_zeros]
  split
  · rfl
  · rw [getD_of_length_le f j 0 (by rw [List.length_take] at *; omega)]

theorem padTo_append (x y : Bytes) : padTo (x ++ y) x.length = x := by
  rw [padTo, List.take_left' rfl, List.length_append, Nat.sub_eq_zero_of_le (Nat.le_add_right _ _)]
  exact List.append_nil _

theorem writeAt_nil (f : Bytes) (off : Nat) : writeAt f off [] = f := rfl

theorem writeAt_of_ne_nil (f : Bytes) (off : Nat) {bs : Bytes} (h : bs ≠ []) :
    writeAt f off bs = padTo f off ++ bs ++ f.drop (off + bs.length) := by
  rw [writeAt, if_neg (by rwa [List.isEmpty_iff])]; rfl

theorem getD_writeAt (f : Bytes) (off : Nat) (bs : Bytes) (i : Nat) :
    (writeAt f off bs).getD i 0 = if off ≤ i ∧ i < off + bs.length then bs.getD (i - off) 0 else f.getD i 0 := by
  by_cases hb : bs = []
  · rw [hb, writeAt_nil, if_neg (fun h => Nat.not_lt_of_le h.1 h.2)]
  rw [writeAt_of_ne_nil f off hb, getD_append, getD_append, List.length_append, length_padTo]
  by_cases h1 : i < off
  · rw [if_pos (Nat.lt_add_right _ h1), if_pos h1, getD_padTo f off i h1, if_neg (fun h => Nat.not_lt_of_le h.1 h1)]
  · by_cases h2 : i < off + bs.length
    · rw [if_pos h2, if_neg h1, if_pos ⟨Nat.le_of_not_lt h1, h2⟩]
    · rw [if_neg h2, if_neg (fun h => h2 h.2), getD_drop, Nat.add_sub_of_le (Nat.le_of_not_lt h2)]

theorem getD_writeAt_outside {f : Bytes} {off : Nat} {bs : Bytes} {i : Nat} (h : i < off ∨ off + bs.length ≤ i) :
    (writeAt f off bs).getD i 0 = f.getD i 0 := by
  rw [getD_writeAt, if_neg fun hi => h.elim (Nat.not_lt_of_le hi.1) (Nat.not_le_of_lt hi.2)]

theorem length_writeAt (f : Bytes) (off : Nat) (bs : Bytes) :
    (writeAt f off bs).length = if bs = [] then f.length else max f.length (off + bs.length) := by
  by_cases hb : bs = []
  · rw [hb, writeAt_nil, if_pos rfl]
  rw [writeAt_of_ne_nil f off hb, if_neg hb, List.length_append, List.length_append, length_padTo, List.length_drop]
  omega

theorem length_writeAt_ge (f : Bytes) (off : Nat) (bs : Bytes) : f.length ≤ (writeAt f off bs).length := by
  rw [length_writeAt]; split <;> omega

theorem writeAt_writeAt (f : Bytes) (p : Nat) (a b : Bytes) :
    writeAt (writeAt f p a) (p + a.length) b = writeAt f p (a ++ b) := by
  by_cases ha : a = []
  · rw [ha]; rfl
  by_cases hb : b = []
  · rw [hb, List.append_nil]; rfl
  -- the first write is `padTo f p ++ a ++ _`, of which the second keeps `padTo f p ++ a`
  have hl : (padTo f p ++ a).length = p + a.length := by rw [List.length_append, length_padTo]
  rw [writeAt_of_ne_nil f p ha, writeAt_of_ne_nil _ _ hb, writeAt_of_ne_nil f p (by simp [ha]), ← hl, padTo_append,
    List.drop_append, List.drop_of_length_le (Nat.le_add_right _ _), hl, List.nil_append, Nat.add_sub_cancel_left,
    List.drop_drop, List.length_append]
  simp only [List.append_assoc, Nat.add_assoc]

theorem fileRead_writeAt_self (f : Bytes) (off : Nat) (bs : Bytes) : fileRead (writeAt f off bs) off bs.length = bs := by
  by_cases hb : bs = []
  · rw [hb]; exact fileRead_zero _ _
  have := fileRead_append_self (padTo f off) bs (f.drop (off + bs.length))
  rwa [length_padTo, ← writeAt_of_ne_nil f off hb] at this

theorem fileRead_writeAt_disjoint (f : Bytes) (off : Nat) (bs : Bytes) (p n : Nat)
    (hd : off + bs.length ≤ p ∨ p + n ≤ off) (hf : n ≤ f.length - p) :
    fileRead (writeAt f off bs) p n = fileRead f p n :=
  fileRead_congr f _ p n hf (by have := length_writeAt_ge f off bs; omega) fun i h1 h2 =>
    getD_writeAt_outside (by omega)

theorem fileRead_writeAt_append (f : Bytes) (p n : Nat) (d : Bytes) (hf : n ≤ f.length - p) :
    fileRead (writeAt f (p + n) d) p (n + d.length) = fileRead f p n ++ d := by
  rw [fileRead_add, fileRead_writeAt_self, fileRead_writeAt_disjoint f _ d p n (Or.inr (Nat.le_refl _)) hf]

end Copy
end Zck
