/-
C14 — a chunk-data request returns exactly the chunk's content (`chunk_data_exact`).

On a well-formed file (`WF`, `Props/C01Stream.lean`), for a context in any position state (C14's `getChunkData_history_free`
covers that: offset, pending bytes, current chunk, end-of-data marker, buffers, checksum contexts are all re-established by the
request) with the dictionary loaded or absent and whatever the running data checksum has been fed before, a request for the data
of chunk `k ≥ 1` with a buffer of the chunk's declared size returns that size and exactly the chunk's content: its stored bytes,
verified, decoded with the dictionary the format prescribes.  The proof runs the reader's invariant (`SI`, here with the running
data checksum untracked, `tr = false`) from the state the request sets up, inside chunk `k` with `done k` as the bytes "taken out
before", and reads the result off the accounting equation: what was handed out is a prefix of the file's content of the right
length at the right place.
-/
import ZckModel.Props.C01Stream

namespace Zck.Stream
open Zck.Format Zck.Reader

section
variable {H : HashFn} {D : Decomp} {f : Bytes} {h : Hdr}

/-- the dictionary is loaded, or the file has none; for unit-decoded chunks it is the one the format prescribes -/
structure DictLoaded (D : Decomp) (f : Bytes) (h : Hdr) (c : Ctx) : Prop where
  ready : ∀ d, h.chunks.head? = some d → 0 < d.len → c.dict.isSome = true
  right : h.compType ≠ 0 → c.dict = dictMain D f h

theorem chunk_data_prefix (wf : WF H D f h) (c : Ctx) (hc : c.hdr = h) (he : c.err = false)
    (hfh : f4 h = true ∨ c.fullHash.isSome = true) (hdl : DictLoaded D f h c)
    (k : Nat) (hk : 1 ≤ k) (ch : Chunk) (hch : h.chunks[k]? = some ch) (n : Nat) (hn : 0 < n) (hnl : n ≤ ch.len) :
    (getChunkData H D f c k n).1 = ⟨n, (contrib D f h k ch).take n⟩ := by
  have hl : ch.len ≠ 0 := by omega
  have hlt := lt_length_of_getElem? hch
  obtain ⟨d, hd⟩ : ∃ d, h.chunks.head? = some d := ⟨_, List.head?_eq_some_head wf.nonempty⟩
  have hno : ¬ (d.len > 0 ∧ c.dict.isNone = true) := fun ⟨h1, h2⟩ => by
    have := hdl.ready d hd h1
    rw [Option.isNone_iff_eq_none.mp h2] at this; cases this
  unfold getChunkData
  rw [if_neg (by simp [he])]
  have hca : chunkAt c k = some ch := by rw [chunkAt_eq hc]; exact hch
  rw [hca, hc, hd]
  simp only
  rw [if_neg hl, if_neg (fun hx => hno ⟨hx.1, hx.2.1⟩), if_neg hno]
  simp only
  -- the state the request sets up
  generalize hc2 : ({ c with data := [], dataLoc := 0, dataEof := false, dc := [], started := true, pos := dataOff c + ch.start, dataIdx := some k, chunkHash := some [] } : Ctx) = c2
  have hsm : (fileRead f (dOff h) ch.start).length = ch.start := by
    have hend := chunk_end_le wf.run k ch hch
    have hp := wf.present
    simp only [fileRead_full_iff] at *; omega
  have hmid : Mid H D f h false true n c.dict (done D f h k) ([] ++ []) c2 k ch := by
    rw [← hc2]
    exact Mid.enter ⟨hc, he, rfl, rfl⟩ rfl rfl hch rfl hsm (by show dataOff c + ch.start = _; rw [dataOff_eq hc]) rfl
      (hfh.imp_right fun hs => by simpa using hs) rfl (by simp) (fun j cj hj hcj => wf.needs j cj (by omega) hcj)
      (fun _ hz => ⟨hdl.right hz, fun h0 => by omega⟩) nofun (fun hs => by have := hs.1; omega)
  have hsi : SI H D f h false true n c.dict (done D f h k) ([] ++ []) c2 := .mid k ch hmid
  have e2 : c2.err = false := by rw [← hc2]; exact he
  have s2 : c2.started = true := by rw [← hc2]
  have h2 : c2.hdr = h := by rw [← hc2]; exact hc
  have d2 : c2.dict = c.dict := by rw [← hc2]
  unfold compRead
  rw [if_neg (by simp [e2]), if_neg (by simp [s2]), if_neg (by omega), h2, hd]
  simp only
  rw [if_neg (by rw [d2]; exact hno)]
  have hgood := readLoop_SI (H := H) (D := D) (f := f) wf.run hn (fun hu => by cases hu) (fuelFor f c2 n) c2 [] false hsi
  have hprog := readLoop_prog wf hn (fun hu => by cases hu) (fuelFor f c2 n) c2 [] (mu_lt_fuel wf hsi) (by simp) hsi
  generalize readLoop H D f n true (fuelFor f c2 n) c2 [] false = r at hgood hprog ⊢
  obtain ⟨ro, c3⟩ := r
  rcases hgood with hneg | ⟨hret, hsi3, hshort⟩
  · have := hprog.1; omega
  simp only [List.nil_append] at hsi3 hshort
  -- what was handed out sits, in the content of the file, right behind `done k`; so does the content of chunk `k`
  have hp1 : (done D f h k ++ ro.bytes) <+: done D f h h.chunks.length := SI.prefix hsi3
  have hp2 : (done D f h k ++ contrib D f h k ch) <+: done D f h h.chunks.length := by
    rw [← done_succ D f h k ch hch]; exact done_prefix (k + 1) hlt
  have hcl : (contrib D f h k ch).length = ch.len := contrib_len_of_need k ch (wf.needs k ch hlt hch)
  have hle : ro.bytes.length ≤ n := hprog.2
  have hlen : ro.bytes.length = n := by
    rcases Nat.lt_or_ge ro.bytes.length n with hlt' | hge
    · -- a short answer would mean the stream ended inside the file's content
      exfalso
      obtain ⟨hdc, hend⟩ := hshort hlt'
      obtain ⟨z, hz⟩ := hp2
      rw [← (hsi3.atEnd hend).2.2.1, hdc, List.append_nil] at hz
      have := congrArg List.length hz
      simp only [List.length_append] at this
      omega
    · omega
  have hpre : ro.bytes <+: contrib D f h k ch := by
    have := List.prefix_of_prefix_length_le hp1 hp2 (by simp only [List.length_append]; omega)
    exact (List.prefix_append_right_inj _).mp this
  have hbytes : ro.bytes = (contrib D f h k ch).take n := by
    rw [← hlen]; exact List.prefix_iff_eq_take.mp hpre
  cases ro with
  | mk ret bytes =>
    simp only at hret hbytes hlen
    rw [hret, hlen, hbytes]

theorem chunk_data_exact (wf : WF H D f h) (c : Ctx) (hc : c.hdr = h) (he : c.err = false)
    (hfh : f4 h = true ∨ c.fullHash.isSome = true) (hdl : DictLoaded D f h c)
    (k : Nat) (hk : 1 ≤ k) (ch : Chunk) (hch : h.chunks[k]? = some ch) (hl : ch.len ≠ 0) :
    (getChunkData H D f c k ch.len).1 = ⟨ch.len, contrib D f h k ch⟩ := by
  have hcl : (contrib D f h k ch).length = ch.len := contrib_len_of_need k ch (wf.needs k ch (lt_length_of_getElem? hch) hch)
  rw [chunk_data_prefix wf c hc he hfh hdl k hk ch hch ch.len (by omega) (Nat.le_refl _)]
  congr 1
  rw [← hcl, List.take_length]

end
end Zck.Stream
