/-
C05 — completeness of the single-range path: a well-formed response (the stored bytes of exactly the requested chunks, in
request order, each hashing to its index checksum) delivered to `dl_write_range` makes every requested chunk valid, and the
bytes at each extent are the server's bytes (or an explicit hash collision is exhibited).  One lemma does the work,
`dwr_chunk`: with a requested chunk open, its stored bytes followed by anything are written, verified and marked, and the next
entry of the request is opened.  The rest is the induction over it, carried out on the bundle `Req` of what is known about the
request on the way; the first call on a fresh context opens the first entry (`dwr_fresh`), and `single_feed_indep` adds every
fragmentation.  The multipart path uses the same induction once per part (`C05MpComplete.lean`).
-/
import ZckModel.Props.C05Frag

namespace Zck.C05
open Zck.Format Zck.Dl

/-- what `mkRidx` produces: payload offsets are the running sums of the sizes, from `s` -/
def RunIdx : Nat → List RChunk → Prop
  | _, [] => True
  | s, rc :: rest => rc.start = s ∧ 0 < rc.compLen ∧ RunIdx (s + rc.compLen) rest

theorem runIdx_mkRidx : ∀ (l : List (Nat × Nat)) (s : Nat), (∀ p ∈ l, 0 < p.2) → RunIdx s (mkRidx l s)
  | [], _, _ => trivial
  | (n, sz) :: rest, s, h => by
    exact ⟨rfl, h (n, sz) List.mem_cons_self, runIdx_mkRidx rest (s + sz) (fun p hp => h p (List.mem_cons_of_mem _ hp))⟩

theorem runIdx_pos : ∀ (l : List RChunk) (s : Nat), RunIdx s l → ∀ x ∈ l, 0 < x.compLen
  | [], _, _, x, hx => by simp at hx
  | a :: l, s, hs, x, hx => by
    rcases List.mem_cons.mp hx with rfl | hx'
    · exact hs.2.1
    · exact runIdx_pos l _ hs.2.2 x hx'

/-- the bytes a server sends for the requested chunks (`stored k`: the stored bytes of chunk `k` of the new file) -/
def payloadOf (stored : Nat → Bytes) : List RChunk → Bytes
  | [] => []
  | rc :: rest => stored rc.tgt ++ payloadOf stored rest

/-- every entry of a running request ends inside the payload -/
theorem payloadOf_length (stored : Nat → Bytes) : ∀ (l : List RChunk), (∀ rc ∈ l, (stored rc.tgt).length = rc.compLen) →
    ∀ s, RunIdx s l → ∀ rc ∈ l, rc.start + rc.compLen ≤ s + (payloadOf stored l).length
  | [], _, _, _, rc, h => by simp at h
  | r :: rest, hl, s, hr, rc, h => by
    simp only [payloadOf, List.length_append]
    have h1 := hl r List.mem_cons_self
    rcases List.mem_cons.mp h with rfl | h'
    · have := hr.1; omega
    · have := payloadOf_length stored rest (fun x hx => hl x (List.mem_cons_of_mem _ hx)) _ hr.2.2 rc h'
      omega

/-- one requested chunk, as the response must match it -/
def EntryOk (e : Env) (stored : Nat → Bytes) (rc : RChunk) : Prop :=
  ∃ tc, e.hdr.chunks[rc.tgt]? = some tc ∧ rc.compLen = tc.compLen ∧ (stored rc.tgt).length = rc.compLen ∧
    e.H e.hdr.chunkHashType (stored rc.tgt) = some tc.digest

theorem EntryOk.len {e : Env} {stored : Nat → Bytes} {rc : RChunk} (h : EntryOk e stored rc) :
    (stored rc.tgt).length = rc.compLen :=
  let ⟨_, _, _, hl, _⟩ := h; hl

theorem payloadOf_ne_nil (stored : Nat → Bytes) {l : List RChunk} {s : Nat} (hne : l ≠ []) (hrun : RunIdx s l)
    (hl : ∀ rc ∈ l, (stored rc.tgt).length = rc.compLen) : payloadOf stored l ≠ [] := by
  cases l with
  | nil => exact absurd rfl hne
  | cons rc rest =>
    exact List.append_ne_nil_of_left_ne_nil (List.ne_nil_of_length_pos (hl rc List.mem_cons_self ▸ hrun.2.1)) _

/-- the download layer has chunk `rc` open (nothing of it written yet), having worked through the entries `pre` of the request -/
def OpenAt (e : Env) (st : St) (pre : List RChunk) (rc : RChunk) : Prop :=
  st.err = false ∧ st.writeInChunk = rc.compLen ∧ st.tgtCheck = some rc.tgt ∧ st.hash = some [] ∧
  st.dlChunkData = rc.start ∧ st.cur = pre.length + 1 ∧ st.curNull = decide (pre.length + 1 ≥ e.ridx.length)

theorem dlOpen_nothing (e : Env) (st : St) (h : ∀ r ∈ e.ridx, r.start ≠ st.dlChunkData) :
    dlOpen e st = { st with cur := st.from e, curNull := false } := by
  rw [dlOpen_eq, findNext_none e st _ _ (fun r hr => h r (List.mem_of_mem_drop hr))]

theorem dlOpen_next (e : Env) (st : St) (pre : List RChunk) (rc nx : RChunk) (tl : List RChunk) (tc : Chunk)
    (hridx : e.ridx = pre ++ rc :: nx :: tl) (hcur : st.cur = pre.length + 1)
    (hcn : st.curNull = decide (pre.length + 1 ≥ e.ridx.length)) (hel : Eligible e st nx)
    (htc : e.hdr.chunks[nx.tgt]? = some tc) :
    dlOpen e st = { st with tgtCheck := some nx.tgt, hash := some [], writeInChunk := nx.compLen, pos := e.dataOff + tc.start, cur := pre.length + 1 + 1, curNull := decide (pre.length + 1 + 1 ≥ e.ridx.length) } := by
  have hlen : pre.length + 1 < e.ridx.length := by rw [hridx, List.length_append]; simp
  have hfrom : st.from e = pre.length + 1 := by
    unfold St.from
    rw [hcn, hcur, if_neg (by simp only [decide_eq_true_eq, or_self]; exact Nat.not_le_of_gt hlen)]
  have hdrop : e.ridx.drop (pre.length + 1) = nx :: tl := by
    rw [hridx, show pre ++ rc :: nx :: tl = (pre ++ [rc]) ++ nx :: tl by simp]
    exact List.drop_left' (by simp)
  rw [dlOpen_eq, hfrom, hdrop, findNext_head e st nx tl _ hel]
  simp only [htc]

theorem dwr_chunk (e : Env) (stored : Nat → Bytes) (pre post : List RChunk) (rc : RChunk) (st : St) (y : Bytes) (F : Nat)
    (hridx : e.ridx = pre ++ rc :: post) (hrun : RunIdx rc.start (rc :: post)) (hpre : ∀ r ∈ pre, r.start < rc.start)
    (hent : EntryOk e stored rc)
    (hnext : ∀ nx tl, post = nx :: tl →
      (∃ tc, e.hdr.chunks[nx.tgt]? = some tc ∧ nx.compLen = tc.compLen) ∧ nx.tgt ≠ rc.tgt ∧ st.valid.getD nx.tgt 0 ≠ 1)
    (ho : OpenAt e st pre rc) :
    ∃ st', st'.valid = st.valid.set rc.tgt 1 ∧ (∀ nx tl, post = nx :: tl → OpenAt e st' (pre ++ [rc]) nx) ∧
      dlWriteRange e (F + 1) st (stored rc.tgt ++ y) =
        if post = [] ∨ y = [] then (rc.compLen, st') else bump rc.compLen (dlWriteRange e F st' y) := by
  obtain ⟨he, hw, ht, hh, hd, hcur, hcn⟩ := ho
  obtain ⟨tc, htc, hsz, hlen, hhash⟩ := hent
  have hpos : 0 < rc.compLen := hrun.2.1
  have hrne : e.ridx.isEmpty = false := by rw [hridx]; simp
  -- the first dl_write takes exactly the stored bytes of `rc`; they verify, and the search for the next entry begins
  have h1 := dlWrite_taken st (stored rc.tgt ++ y) [] (hw ▸ hpos) hh
    (List.append_ne_nil_of_left_ne_nil (List.ne_nil_of_length_pos (hlen ▸ hpos)) y)
  rw [hw, ← hlen, List.take_left, List.nil_append] at h1
  generalize hst1 : (dlWrite st (stored rc.tgt ++ y)).2 = st1
  have hst1 : st1 = _ := hst1.symm.trans (congrArg Prod.snd h1)
  have h1 : dlWrite st (stored rc.tgt ++ y) = (some rc.compLen, st1) := by rw [h1, hst1, hlen]
  have h1w : st1.writeInChunk = 0 := by
    rw [hst1]; show st.writeInChunk - (stored rc.tgt).length = 0; rw [hw, hlen]; exact Nat.sub_self _
  rw [dwr_step e F st _ _ _ he hrne h1]
  unfold cont sel
  simp only [h1w, ↓reduceIte]
  rw [dlSelect_verified e st1 rc.tgt tc (stored rc.tgt) (by rw [hst1]; exact ht) htc (by rw [hst1])
    (by rw [if_neg (Nat.ne_of_gt (hsz ▸ hpos))]; exact hhash)]
  simp only [not_true_eq_false, ↓reduceIte]
  generalize hst2 : ({ st1 with hash := none, valid := st1.valid.set rc.tgt 1, tgtCheck := none } : St) = st2
  have hst2 := hst2.symm
  have h2v : st2.valid = st.valid.set rc.tgt 1 := by rw [hst2, hst1]; rfl
  have h2d : st2.dlChunkData = rc.start + rc.compLen := by rw [hst2, hst1, ← hd, ← hlen]
  have h2c : st2.cur = pre.length + 1 := by rw [hst2, hst1]; exact hcur
  have h2n : st2.curNull = decide (pre.length + 1 ≥ e.ridx.length) := by rw [hst2, hst1]; exact hcn
  have h2e : st2.err = false := by rw [hst2, hst1]; exact he
  have h2w : st2.writeInChunk = 0 := by rw [hst2]; exact h1w
  refine ⟨dlOpen e st2, ?_⟩
  cases post with
  | nil =>
    -- `rc` was the last entry: nothing starts at the end of the payload
    rw [dlOpen_nothing e st2 (fun r hr => by
      rw [h2d]
      rw [hridx] at hr
      rcases List.mem_append.mp hr with h | h
      · exact Nat.ne_of_lt (Nat.lt_of_lt_of_le (hpre r h) (Nat.le_add_right _ _))
      · rw [List.mem_singleton.mp h]; exact Nat.ne_of_lt (Nat.lt_add_of_pos_right hpos))]
    refine ⟨h2v, fun nx tl h => by simp at h, ?_⟩
    simp only [h2w, Nat.lt_irrefl, false_and, ↓reduceIte, true_or, gt_iff_lt]
  | cons nx tl =>
    obtain ⟨⟨tc', htc', hsz'⟩, hne, hnv⟩ := hnext nx tl rfl
    have hrun0 := hrun.2.2
    rw [dlOpen_next e st2 pre rc nx tl tc' hridx h2c h2n ⟨by rw [h2d]; exact hrun0.1.symm,
      by rw [h2v, getD_set_of_ne hne]; exact hnv, tc', htc', hsz'⟩ htc']
    refine ⟨h2v, ?_, ?_⟩
    · intro nx' tl' h
      obtain ⟨rfl, rfl⟩ := h
      exact ⟨h2e, rfl, rfl, rfl, by simp only [h2d]; exact hrun0.1.symm, by simp, by simp⟩
    · by_cases hy : y = []
      · simp [hy, hlen]
      · rw [if_pos ⟨hrun0.2.1, by rw [List.length_append, hlen]; exact Nat.lt_add_of_pos_right (List.length_pos_iff.mpr hy)⟩,
          if_neg (by simp [hy]), ← hlen, List.drop_left]

/-- the request while the download layer works through it: `pre` is done, `rc` is open with nothing of it written, `post` is still
to come.  `dwr_chunk` leads from one such situation to the next, so nothing has to be re-derived on the way -/
structure Req (e : Env) (stored : Nat → Bytes) (st : St) (pre : List RChunk) (rc : RChunk) (post : List RChunk) : Prop where
  ridx : e.ridx = pre ++ rc :: post
  run  : RunIdx rc.start (rc :: post)
  ent  : ∀ r ∈ rc :: post, EntryOk e stored r ∧ r.tgt < st.valid.length
  nv   : ∀ r ∈ post, st.valid.getD r.tgt 0 ≠ 1
  nd   : ((rc :: post).map (·.tgt)).Nodup
  lt   : ∀ r ∈ pre, r.start < rc.start
  opn  : OpenAt e st pre rc

theorem req_chunk (e : Env) (stored : Nat → Bytes) (pre post : List RChunk) (rc : RChunk) (st : St) (y : Bytes) (F : Nat)
    (h : Req e stored st pre rc post) :
    ∃ st', st'.valid = st.valid.set rc.tgt 1 ∧ (∀ nx tl, post = nx :: tl → Req e stored st' (pre ++ [rc]) nx tl) ∧
      dlWriteRange e (F + 1) st (stored rc.tgt ++ y) =
        if post = [] ∨ y = [] then (rc.compLen, st') else bump rc.compLen (dlWriteRange e F st' y) := by
  have hndc := List.nodup_cons.mp h.nd
  obtain ⟨st', hv, ho, heq⟩ := dwr_chunk e stored pre post rc st y F h.ridx h.run h.lt (h.ent rc List.mem_cons_self).1
    (fun nx tl hp => by
      have hm : nx ∈ post := hp ▸ List.mem_cons_self
      obtain ⟨⟨tc, htc, hsz, _⟩, _⟩ := h.ent nx (List.mem_cons_of_mem _ hm)
      exact ⟨⟨tc, htc, hsz⟩, fun h' => hndc.1 (List.mem_map.mpr ⟨nx, hm, h'⟩), h.nv nx hm⟩) h.opn
  refine ⟨st', hv, fun nx tl hp => ?_, heq⟩
  subst hp
  have hrun : RunIdx (rc.start + rc.compLen) (nx :: tl) := h.run.2.2
  refine ⟨by rw [h.ridx]; simp, by rw [← hrun.1] at hrun; exact hrun, fun r hr => ?_, fun r hr => ?_, hndc.2, fun r hr => ?_,
    ho nx tl rfl⟩
  · have := h.ent r (List.mem_cons_of_mem _ hr)
    exact ⟨this.1, by rw [hv, List.length_set]; exact this.2⟩
  · have hm : r ∈ nx :: tl := List.mem_cons_of_mem _ hr
    rw [hv, getD_set_of_ne (fun h' => hndc.1 (List.mem_map.mpr ⟨r, hm, h'⟩))]
    exact h.nv r hm
  · have := h.run.2.1; have := hrun.1
    rcases List.mem_append.mp hr with h' | h'
    · have := h.lt r h'; omega
    · simp only [List.mem_singleton] at h'; subst h'; omega

/-- the induction over `req_chunk`, for a run `rc :: rest` with `more` of the request still to come -/
theorem req_piece (e : Env) (stored : Nat → Bytes) : ∀ (rest pre more : List RChunk) (rc : RChunk) (st : St) (F : Nat),
    Req e stored st pre rc (rest ++ more) → 2 * (payloadOf stored (rc :: rest)).length + 1 ≤ F →
    let out := dlWriteRange e F st (payloadOf stored (rc :: rest))
    out.1 = (payloadOf stored (rc :: rest)).length ∧
    (∀ r ∈ rc :: rest, out.2.valid.getD r.tgt 0 = 1) ∧
    (∀ k, st.valid.getD k 0 = 1 → out.2.valid.getD k 0 = 1) ∧
    (∀ k, (∀ r ∈ rc :: rest, r.tgt ≠ k) → out.2.valid.getD k 0 = st.valid.getD k 0) ∧
    out.2.valid.length = st.valid.length ∧
    (∀ m ms, more = m :: ms → Req e stored out.2 (pre ++ rc :: rest) m ms)
  | rest, pre, more, rc, st, 0, _, hF => by omega
  | rest, pre, more, rc, st, F + 1, h, hF => by
    obtain ⟨⟨_, _, _, hlen, _⟩, hklt⟩ := h.ent rc List.mem_cons_self
    obtain ⟨st', hv', hreq, heq⟩ := req_chunk e stored pre (rest ++ more) rc st (payloadOf stored rest) F h
    have hk1 : st'.valid.getD rc.tgt 0 = 1 := by rw [hv', getD_set, if_pos ⟨rfl, hklt⟩]
    have hmono : ∀ k, st.valid.getD k 0 = 1 → st'.valid.getD k 0 = 1 := fun k hk => by
      rw [hv', getD_set]; split <;> trivial
    have hoth : ∀ k, rc.tgt ≠ k → st'.valid.getD k 0 = st.valid.getD k 0 := fun k hk => by
      rw [hv']; exact getD_set_of_ne (Ne.symm hk)
    have hvl : st'.valid.length = st.valid.length := by rw [hv']; simp
    intro out
    have hout : out = dlWriteRange e (F + 1) st (stored rc.tgt ++ payloadOf stored rest) := rfl
    rw [hout, heq]
    cases rest with
    | nil =>
      simp only [payloadOf, List.append_nil, or_true, ↓reduceIte, hlen, List.mem_singleton, forall_eq]
      exact ⟨trivial, hk1, hmono, fun k hk => hoth k hk, hvl, fun m ms hm => by simpa using hreq m ms (by simpa using hm)⟩
    | cons rc' rest' =>
      have hreq' := hreq rc' (rest' ++ more) rfl
      have hy : payloadOf stored (rc' :: rest') ≠ [] :=
        List.append_ne_nil_of_left_ne_nil
          (List.ne_nil_of_length_pos ((hreq'.ent rc' List.mem_cons_self).1.len ▸ hreq'.run.2.1)) _
      rw [if_neg (by simp [hy])]
      obtain ⟨i1, i2, i3, i4, i5, i6⟩ := req_piece e stored rest' (pre ++ [rc]) more rc' st' F hreq'
        (by have := h.run.2.1; simp only [payloadOf, List.length_append, hlen] at hF ⊢; omega)
      generalize dlWriteRange e F st' (payloadOf stored (rc' :: rest')) = o at i1 i2 i3 i4 i5 i6
      have hne0 : o.1 ≠ 0 := by rw [i1]; exact fun h => hy (List.eq_nil_of_length_eq_zero h)
      simp only [bump, hne0, ↓reduceIte]
      refine ⟨by simp only [i1, payloadOf, List.length_append, hlen], ?_, fun k hk => i3 k (hmono k hk), ?_, by rw [i5, hvl], ?_⟩
      · intro r hr
        rcases List.mem_cons.mp hr with rfl | hr'
        · exact i3 _ hk1
        · exact i2 r hr'
      · intro k hk
        rw [i4 k (fun r hr => hk r (List.mem_cons_of_mem _ hr))]
        exact hoth k (hk rc List.mem_cons_self)
      · intro m ms hm
        simpa using i6 m ms hm

/-- one piece of the payload: with `rc` open, the stored bytes of a run `rc :: rest` of requested chunks delivered in one call are
taken completely, the chunks of the piece end up valid, no other mark changes, and the next entry of the request, if there is
one, is open -/
theorem complete_piece (e : Env) (stored : Nat → Bytes) : ∀ (rest pre more : List RChunk) (rc : RChunk) (st : St) (F : Nat),
    e.ridx = pre ++ rc :: rest ++ more → RunIdx rc.start (rc :: rest ++ more) →
    (∀ r ∈ rc :: rest ++ more, EntryOk e stored r ∧ r.tgt < st.valid.length) →
    (∀ r ∈ rest ++ more, st.valid.getD r.tgt 0 ≠ 1) → ((rc :: rest ++ more).map (·.tgt)).Nodup →
    (∀ r ∈ pre, r.start < rc.start) → OpenAt e st pre rc →
    2 * (payloadOf stored (rc :: rest)).length + 1 ≤ F →
    let out := dlWriteRange e F st (payloadOf stored (rc :: rest))
    out.1 = (payloadOf stored (rc :: rest)).length ∧
    (∀ r ∈ rc :: rest, out.2.valid.getD r.tgt 0 = 1) ∧
    (∀ k, st.valid.getD k 0 = 1 → out.2.valid.getD k 0 = 1) ∧
    (∀ k, (∀ r ∈ rc :: rest, r.tgt ≠ k) → out.2.valid.getD k 0 = st.valid.getD k 0) ∧
    out.2.valid.length = st.valid.length ∧
    (∀ m ms, more = m :: ms → OpenAt e out.2 (pre ++ rc :: rest) m) := by
  intro rest pre more rc st F hridx hrun hent hnv hnd hpre ho hF
  have h := req_piece e stored rest pre more rc st F ⟨by simpa using hridx, hrun, hent, hnv, hnd, hpre, ho⟩ hF
  exact ⟨h.1, h.2.1, h.2.2.1, h.2.2.2.1, h.2.2.2.2.1, fun m ms hm => (h.2.2.2.2.2 m ms hm).opn⟩

/-- `complete_piece` with nothing more to come -/
theorem complete_open (e : Env) (stored : Nat → Bytes) : ∀ (rest pre : List RChunk) (rc : RChunk) (st : St) (F : Nat),
    e.ridx = pre ++ rc :: rest → RunIdx rc.start (rc :: rest) →
    (∀ r ∈ rc :: rest, EntryOk e stored r ∧ r.tgt < st.valid.length) →
    (∀ r ∈ rest, st.valid.getD r.tgt 0 ≠ 1) → ((rc :: rest).map (·.tgt)).Nodup →
    (∀ r ∈ pre, r.start < rc.start) →
    st.err = false → st.writeInChunk = rc.compLen → st.tgtCheck = some rc.tgt → st.hash = some [] →
    st.dlChunkData = rc.start → st.cur = pre.length + 1 → st.curNull = decide (pre.length + 1 ≥ e.ridx.length) →
    2 * (payloadOf stored (rc :: rest)).length + 1 ≤ F →
    (dlWriteRange e F st (payloadOf stored (rc :: rest))).1 = (payloadOf stored (rc :: rest)).length ∧
    (∀ r ∈ rc :: rest, (dlWriteRange e F st (payloadOf stored (rc :: rest))).2.valid.getD r.tgt 0 = 1) ∧
    (∀ k, st.valid.getD k 0 = 1 → (dlWriteRange e F st (payloadOf stored (rc :: rest))).2.valid.getD k 0 = 1) := by
  intro rest pre rc st F hridx hrun hent hnv hnd hpre he hw ht hh hd hcur hcn hF
  have h := complete_piece e stored rest pre [] rc st F (by rw [List.append_nil]; exact hridx) (by rw [List.append_nil]; exact hrun)
    (by rw [List.append_nil]; exact hent) (by rw [List.append_nil]; exact hnv) (by rw [List.append_nil]; exact hnd) hpre
    ⟨he, hw, ht, hh, hd, hcur, hcn⟩ hF
  exact ⟨h.1, h.2.1, h.2.2.1⟩

/-- a download context in which nothing has been received yet -/
structure Fresh (st : St) : Prop where
  err : st.err = false
  wic : st.writeInChunk = 0
  tgt : st.tgtCheck = none
  cn  : st.curNull = true
  dcd : st.dlChunkData = 0

/-- the context after `dl_write_range` has opened the first entry of the request -/
def opened (e : Env) (st : St) (rc : RChunk) (tc : Chunk) : St :=
  { st with tgtCheck := some rc.tgt, hash := some [], writeInChunk := rc.compLen, pos := e.dataOff + tc.start,
            cur := 1, curNull := decide (1 ≥ e.ridx.length) }

theorem dwr_fresh (e : Env) (st : St) (rc : RChunk) (tl : List RChunk) (tc : Chunk) (x : Bytes) (F : Nat)
    (hf : Fresh st) (hr : e.ridx = rc :: tl) (hs : rc.start = 0) (hnv : st.valid.getD rc.tgt 0 ≠ 1)
    (htc : e.hdr.chunks[rc.tgt]? = some tc) (hsz : rc.compLen = tc.compLen) (hpos : 0 < rc.compLen) (hx : x ≠ []) :
    dlWriteRange e (F + 1) st x = dlWriteRange e F (opened e st rc tc) x := by
  have hrne : e.ridx.isEmpty = false := by rw [hr]; rfl
  rw [dwr_step e F st st x 0 hf.err hrne (dlWrite_closed st x hf.wic)]
  unfold cont sel
  simp only [hf.wic, ↓reduceIte]
  have hsel : dlSelect e st = (true, opened e st rc tc) := by
    have hfrom : st.from e = 0 := by unfold St.from; rw [if_pos (.inl hf.cn)]
    unfold dlSelect
    rw [dlVerify_none e st hf.tgt]
    simp only [not_true_eq_false, ↓reduceIte]
    rw [dlOpen_eq, hfrom, List.drop_zero, hr, findNext_head e st rc tl 0 ⟨by rw [hf.dcd, hs], hnv, tc, htc, hsz⟩]
    simp only [htc, opened, hr, Nat.zero_add]
  rw [hsel]
  simp only [not_true_eq_false, ↓reduceIte]
  have hxl : 0 < x.length := List.length_pos_iff.mpr hx
  rw [if_pos ⟨by simp only [opened]; exact hpos, hxl⟩, bump_zero, List.drop_zero]

theorem openAt_opened (e : Env) (st : St) (rc : RChunk) (tc : Chunk) (hf : Fresh st) (hs : rc.start = 0) :
    OpenAt e (opened e st rc tc) [] rc :=
  ⟨hf.err, rfl, rfl, rfl, by simp only [opened]; rw [hf.dcd, hs], rfl, rfl⟩

theorem req_opened (e : Env) (stored : Nat → Bytes) (st : St) (hf : Fresh st) (rc : RChunk) (tl : List RChunk) (tc : Chunk)
    (hr : e.ridx = rc :: tl) (hrun : RunIdx 0 e.ridx)
    (hent : ∀ r ∈ e.ridx, EntryOk e stored r ∧ r.tgt < st.valid.length ∧ st.valid.getD r.tgt 0 ≠ 1)
    (hnd : (e.ridx.map (·.tgt)).Nodup) : Req e stored (opened e st rc tc) [] rc tl := by
  rw [hr] at hrun hent hnd
  exact ⟨hr, hrun.1 ▸ hrun, fun r h => ⟨(hent r h).1, (hent r h).2.1⟩, fun r h => (hent r (List.mem_cons_of_mem _ h)).2.2, hnd,
    fun r h => by simp at h, openAt_opened e st rc tc hf hrun.1⟩

/-- the first call on a fresh context opens the first entry of the request, whatever is delivered -/
theorem dwr_fresh_req (e : Env) (stored : Nat → Bytes) (st : St) (hf : Fresh st) (rc : RChunk) (tl : List RChunk)
    (hr : e.ridx = rc :: tl) (hrun : RunIdx 0 e.ridx)
    (hent : ∀ r ∈ e.ridx, EntryOk e stored r ∧ r.tgt < st.valid.length ∧ st.valid.getD r.tgt 0 ≠ 1)
    (hnd : (e.ridx.map (·.tgt)).Nodup) (x : Bytes) (hx : x ≠ []) (F : Nat) :
    ∃ tc, Req e stored (opened e st rc tc) [] rc tl ∧
      dlWriteRange e (F + 1) st x = dlWriteRange e F (opened e st rc tc) x := by
  have hrun0 := hr ▸ hrun
  obtain ⟨⟨tc, htc, hsz, _, _⟩, _, hnv⟩ := hent rc (hr ▸ List.mem_cons_self)
  exact ⟨tc, req_opened e stored st hf rc tl tc hr hrun hent hnd,
    dwr_fresh e st rc tl tc x F hf hr hrun0.1 hnv htc hsz hrun0.2.1 hx⟩

/-- completeness from any fresh context: the payload of the request delivered in one call is taken completely, every requested
chunk ends up marked valid, no other mark changes -/
theorem complete_fresh (e : Env) (stored : Nat → Bytes) (st : St) (F : Nat) (hf : Fresh st)
    (hne : e.ridx ≠ []) (hrun : RunIdx 0 e.ridx)
    (hent : ∀ r ∈ e.ridx, EntryOk e stored r ∧ r.tgt < st.valid.length ∧ st.valid.getD r.tgt 0 ≠ 1)
    (hnd : (e.ridx.map (·.tgt)).Nodup) (hF : 2 * (payloadOf stored e.ridx).length + 2 ≤ F) :
    let out := dlWriteRange e F st (payloadOf stored e.ridx)
    out.1 = (payloadOf stored e.ridx).length ∧ (∀ r ∈ e.ridx, out.2.valid.getD r.tgt 0 = 1) ∧
    (∀ k, st.valid.getD k 0 = 1 → out.2.valid.getD k 0 = 1) ∧
    (∀ k, (∀ r ∈ e.ridx, r.tgt ≠ k) → out.2.valid.getD k 0 = st.valid.getD k 0) := by
  cases hr : e.ridx with
  | nil => exact absurd hr hne
  | cons rc rest =>
    have hpne : payloadOf stored (rc :: rest) ≠ [] :=
      payloadOf_ne_nil stored (List.cons_ne_nil rc rest) (hr ▸ hrun) fun r h => (hent r (hr ▸ h)).1.len
    rw [hr] at hF
    obtain ⟨F', rfl⟩ : ∃ F', F = F' + 1 := ⟨F - 1, by omega⟩
    obtain ⟨tc, hreq, hfirst⟩ := dwr_fresh_req e stored st hf rc rest hr hrun hent hnd _ hpne F'
    intro out
    have hout : out = dlWriteRange e (F' + 1) st (payloadOf stored (rc :: rest)) := rfl
    rw [hout, hfirst]
    have h := req_piece e stored rest [] [] rc (opened e st rc tc) F' (by rw [List.append_nil]; exact hreq) (by omega)
    exact ⟨h.1, h.2.1, h.2.2.1, h.2.2.2.1⟩

/-- C05 (completeness, single-range path): a fresh download context, a request whose entries match the index and are not yet
valid, and the server's bytes for exactly those chunks in request order, delivered to `dl_write_range` in one call: every byte is
taken and every requested chunk ends up marked valid; chunks that were valid stay valid -/
theorem complete_single (e : Env) (stored : Nat → Bytes) (file : Bytes) (valid : List Int) (F : Nat)
    (hne : e.ridx ≠ []) (hrun : RunIdx 0 e.ridx)
    (hent : ∀ r ∈ e.ridx, EntryOk e stored r ∧ r.tgt < valid.length ∧ valid.getD r.tgt 0 ≠ 1)
    (hnd : (e.ridx.map (·.tgt)).Nodup) (hF : 2 * (payloadOf stored e.ridx).length + 2 ≤ F) :
    let out := dlWriteRange e F { file := file, pos := 0, valid := valid } (payloadOf stored e.ridx)
    out.1 = (payloadOf stored e.ridx).length ∧ (∀ r ∈ e.ridx, out.2.valid.getD r.tgt 0 = 1) ∧
    (∀ k, valid.getD k 0 = 1 → out.2.valid.getD k 0 = 1) := by
  have h := complete_fresh e stored { file := file, pos := 0, valid := valid } F ⟨rfl, rfl, rfl, rfl, rfl⟩ hne hrun hent hnd hF
  exact ⟨h.1, h.2.1, h.2.2.1⟩

def Collision (H : HashFn) (t : Nat) : Prop := ∃ x y : Bytes, x ≠ y ∧ H t x = H t y ∧ (H t x).isSome

/-- a requested chunk marked valid holds bytes with the index checksum (`GV`); the server's bytes have it too, so they are the
same or a collision -/
theorem stored_or_collision (e : Env) (stored : Nat → Bytes) (f0 : Bytes) (v0 : List Int) (st : St) (hgv : GV e f0 v0 st)
    (r : RChunk) (hr : r ∈ e.ridx) (hent : EntryOk e stored r) (hnv : v0.getD r.tgt 0 ≠ 1) (hpos : 0 < r.compLen)
    (hv : st.valid.getD r.tgt 0 = 1) :
    ∃ tc, e.hdr.chunks[r.tgt]? = some tc ∧ ChunkOk e st.file tc ∧
      (((st.file.drop (e.dataOff + tc.start)).take tc.compLen = stored r.tgt) ∨ Collision e.H e.hdr.chunkHashType) := by
  obtain ⟨tc, htc, hsz, hlen, hhash⟩ := hent
  have hok := hgv.2.ok r.tgt tc htc ⟨hnv, r, hr, rfl⟩ hv
  refine ⟨tc, htc, hok, ?_⟩
  unfold ChunkOk at hok
  rw [if_neg (by omega)] at hok
  by_cases heq : (st.file.drop (e.dataOff + tc.start)).take tc.compLen = stored r.tgt
  · exact .inl heq
  · exact .inr ⟨_, _, heq, by rw [hok.2, hhash], by rw [hok.2]; rfl⟩

/-- C05 (completeness + verification, single-range path): under the hypotheses of `complete_single`, for a header with
non-overlapping extents (`disj_of_open`: every parsed header), every requested extent lies inside the target and holds the
server's bytes, or a collision of the hash is exhibited -/
theorem complete_single_bytes (e : Env) (hd : Disj e) (stored : Nat → Bytes) (file : Bytes) (valid : List Int) (F : Nat)
    (hne : e.ridx ≠ []) (hrun : RunIdx 0 e.ridx)
    (hent : ∀ r ∈ e.ridx, EntryOk e stored r ∧ r.tgt < valid.length ∧ valid.getD r.tgt 0 ≠ 1)
    (hnd : (e.ridx.map (·.tgt)).Nodup) (hF : 2 * (payloadOf stored e.ridx).length + 2 ≤ F) :
    let out := dlWriteRange e F { file := file, pos := 0, valid := valid } (payloadOf stored e.ridx)
    ∀ r ∈ e.ridx, ∃ tc, e.hdr.chunks[r.tgt]? = some tc ∧ ChunkOk e out.2.file tc ∧
      (((out.2.file.drop (e.dataOff + tc.start)).take tc.compLen = stored r.tgt) ∨ Collision e.H e.hdr.chunkHashType) := by
  intro out r hr
  have hgv : GV e file valid out.2 :=
    pres_dlWriteRange e (gv_preserved e hd file valid) F _ _ (gv_init e { file := file, pos := 0, valid := valid } rfl rfl)
  exact stored_or_collision e stored file valid out.2 hgv r hr (hent r hr).1 (hent r hr).2.2 (runIdx_pos _ _ hrun r hr)
    ((complete_single e stored file valid F hne hrun hent hnd hF).2.1 r hr)

theorem single_fresh_feed (e : Env) (stored : Nat → Bytes) (st : St) (fs : List Bytes) (stop clear : Bool)
    (hf : Fresh st) (hb : st.boundary = none) (hne : e.ridx ≠ []) (hrun : RunIdx 0 e.ridx)
    (hent : ∀ r ∈ e.ridx, EntryOk e stored r ∧ r.tgt < st.valid.length ∧ st.valid.getD r.tgt 0 ≠ 1)
    (hnd : (e.ridx.map (·.tgt)).Nodup) (hfs : ∀ f ∈ fs, f ≠ []) (hcat : fs.flatten = payloadOf stored e.ridx) :
    feed e stop clear st fs [] = (fs.map List.length, setDl (st.dlBytes + (payloadOf stored e.ridx).length)
      (dlWriteRange e (2 * (payloadOf stored e.ridx).length + 2) st (payloadOf stored e.ridx)).2) := by
  have hc := complete_fresh e stored st _ hf hne hrun hent hnd (Nat.le_refl _)
  have hfne : fs ≠ [] := fun h =>
    payloadOf_ne_nil stored hne hrun (fun r hr => (hent r hr).1.len) (by rw [← hcat, h]; rfl)
  rw [← hcat] at hc ⊢
  exact single_feed_indep e stop clear st fs hb hf.err (fun h => absurd hf.wic (Nat.ne_of_gt h)) hfs hfne hc.1

/-- C05 (the single-range path, every fragmentation): under the hypotheses of `complete_single`, the payload handed to
`zck_write_chunk_cb` in any sequence of non-empty fragments: every call is accepted, every requested chunk ends up marked valid,
chunks that were valid stay valid, and each requested extent holds the server's bytes (or a collision of the hash is exhibited) -/
theorem single_complete_frags (e : Env) (hd : Disj e) (stored : Nat → Bytes) (file : Bytes) (valid : List Int) (fs : List Bytes)
    (stop clear : Bool) (hne : e.ridx ≠ []) (hrun : RunIdx 0 e.ridx)
    (hent : ∀ r ∈ e.ridx, EntryOk e stored r ∧ r.tgt < valid.length ∧ valid.getD r.tgt 0 ≠ 1)
    (hnd : (e.ridx.map (·.tgt)).Nodup) (hfs : ∀ f ∈ fs, f ≠ []) (hcat : fs.flatten = payloadOf stored e.ridx) :
    let out := feed e stop clear { file := file, pos := 0, valid := valid } fs []
    out.1 = fs.map List.length ∧ (∀ r ∈ e.ridx, out.2.valid.getD r.tgt 0 = 1) ∧
    (∀ k, valid.getD k 0 = 1 → out.2.valid.getD k 0 = 1) ∧
    (∀ r ∈ e.ridx, ∃ tc, e.hdr.chunks[r.tgt]? = some tc ∧ ChunkOk e out.2.file tc ∧
      (((out.2.file.drop (e.dataOff + tc.start)).take tc.compLen = stored r.tgt) ∨ Collision e.H e.hdr.chunkHashType)) := by
  intro out
  have hout : out = feed e stop clear { file := file, pos := 0, valid := valid } fs [] := rfl
  rw [hout, single_fresh_feed e stored { file := file, pos := 0, valid := valid } fs stop clear ⟨rfl, rfl, rfl, rfl, rfl⟩ rfl hne hrun
    hent hnd hfs hcat]
  have hc := complete_single e stored file valid _ hne hrun hent hnd (Nat.le_refl _)
  dsimp only [setDl]    -- left to the unifier, the projections of `setDl _ _` make it unfold `dlWriteRange`
  exact ⟨rfl, hc.2.1, hc.2.2, complete_single_bytes e hd stored file valid _ hne hrun hent hnd (Nat.le_refl _)⟩

/-- non-vacuity: the hypotheses of `complete_single` hold of the toy session at the end of `C05.lean` (request: chunks 1
and 2, the server's bytes `[1,2,3]` and `[4,5]`) -/
example : let stored : Nat → Bytes := fun k => if k = 1 then [1, 2, 3] else [4, 5]
    C17.toyEnv.ridx ≠ [] ∧ RunIdx 0 C17.toyEnv.ridx ∧
    (∀ r ∈ C17.toyEnv.ridx, EntryOk C17.toyEnv stored r ∧ r.tgt < [1, 0, 0].length ∧ ([1, 0, 0] : List Int).getD r.tgt 0 ≠ 1) ∧
    (C17.toyEnv.ridx.map (·.tgt)).Nodup := by
  intro stored
  refine ⟨by decide +kernel, by simp [C17.toyEnv, mkRidx, RunIdx], ?_, by decide +kernel⟩
  intro r hr
  simp only [C17.toyEnv, mkRidx, List.mem_cons, List.mem_nil_iff, or_false] at hr
  rcases hr with rfl | rfl
  · exact ⟨⟨⟨1, [6], none, 3, 3, 0⟩, by decide +kernel, rfl, rfl, by decide +kernel⟩, by decide +kernel, by decide +kernel⟩
  · exact ⟨⟨⟨2, [9], none, 2, 2, 3⟩, by decide +kernel, rfl, rfl, by decide +kernel⟩, by decide +kernel, by decide +kernel⟩

end Zck.C05
