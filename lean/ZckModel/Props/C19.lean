/-
C19 — Independent contexts do not interfere when used from different threads (PARTIAL).
Proved: (1, `footprint_clean`) on the storage footprint GENERATED from the library objects of this run, the only
process-wide writable storage that is ever written is the logging configuration (`log_level`,
`log_fd`, `callback`), which the property's premise fixes before the threads start; (2, `interleaving_eq_serial`) for
operations that do not write shared storage, EVERY interleaving of the threads' operations gives
each thread exactly the local state and outputs it gets when its operations run alone, in order.
Not expressible here and only searched (ThreadSanitizer runs of the real library): races on heap
objects wrongly shared through pointers, and the internals of libc / OpenSSL / zstd.
-/
import ZckModel.Threads

namespace Zck.C19
open Zck.Threads

/-- the logging configuration: written only by the setters the premise puts before thread start -/
def loggingConfig : List String := ["log_level", "log_fd", "callback"]

/-- `s.2.1` is the symbol, `s.2.2.2` whether it is written outside its initialiser: a new `static` buffer, or a write to one
of the constant tables, makes this obligation fail -/
theorem footprint_clean :
    ∀ s ∈ Zck.Gen.writableStatics, s.2.1 ∈ loggingConfig ∨ s.2.2.2 = false := by decide +kernel

variable {S L O : Type}

theorem stepThread_other (sh : S) (ls : Locals L O) (t u : Nat) (op : Op S L O) (h : u ≠ t) :
    stepThread sh ls t op u = ls u := by
  unfold stepThread; simp [h]

theorem stepThread_self (sh : S) (ls : Locals L O) (t : Nat) (op : Op S L O) :
    stepThread sh ls t op t = ((op sh (ls t).1).1, (op sh (ls t).1).2 :: (ls t).2) := by
  unfold stepThread; simp

theorem interleaving_eq_serial (sh : S) : ∀ (ev : List (Nat × Op S L O)) (ls : Locals L O) (t : Nat),
    run sh ls ev t = runSeq sh (ls t) (proj t ev)
  | [], ls, t => rfl
  | (u, op) :: rest, ls, t => by
    simp only [run]
    rw [interleaving_eq_serial sh rest (stepThread sh ls u op) t]
    by_cases h : u = t
    · subst h
      simp [proj, runSeq, stepThread_self]
    · have : t ≠ u := fun e => h e.symm
      simp [proj, h, stepThread_other sh ls u t op this]

theorem any_two_interleavings_agree (sh : S) (ev1 ev2 : List (Nat × Op S L O)) (ls : Locals L O) (t : Nat)
    (h : proj t ev1 = proj t ev2) : run sh ls ev1 t = run sh ls ev2 t := by
  rw [interleaving_eq_serial, interleaving_eq_serial, h]

end Zck.C19
