/-
C12 — I/O failures are reported, never turned into success (PARTIAL).
Proved about the model of src/lib/io.c, for EVERY fault schedule (short counts, EINTR, hard errors at any call):
`write_data_sound`, `read_data_sound`, `chunks_from_temp_sound`.  That a short count of `read_data` means the end of the file is
NOT proved: the model's fuel can run out first.  The call sites above io.c (writer close, reader, validators, copy, tools) are
exercised by injecting a fault at every k-th system call of whole scenarios (IOFAULT) and judged against the fault-free
result; they are not theorems.
-/
import ZckModel.IoFault
import ZckModel.BytesLemmas

namespace Zck.C12
open Zck.IoFault Zck.Copy Zck.Format Zck.Reader

theorem zeros_zero : zeros 0 = [] := rfl

/-- how many of the `n` bytes asked for a call under fault `f` transfers at most (`none`: it returns -1) -/
def granted : Fault → Nat → Option Nat
  | .ok, n => some n
  | .short k, n => some (min (if k = 0 then 1 else k) n)
  | .eintr, _ => none
  | .fail, _ => none

theorem granted_le {f : Fault} {n k : Nat} (h : granted f n = some k) : k ≤ n ∧ (0 < n → 0 < k) := by
  cases f <;> simp only [granted, Option.some.injEq, reduceCtorEq] at h <;> subst h
  · exact ⟨Nat.le_refl _, id⟩
  · exact ⟨Nat.min_le_right _ _, fun hn => by split <;> omega⟩

theorem sysRead_eq (fd : Fd) (n : Nat) (f : Fault) :
    sysRead fd n f = match granted f n with
      | none => (-1, [], fd)
      | some k => (((fileRead fd.data fd.pos k).length : Int), fileRead fd.data fd.pos k,
          { fd with pos := fd.pos + (fileRead fd.data fd.pos k).length }) := by
  cases f <;> rfl

theorem sysWrite_eq (fd : Fd) (bs : Bytes) (f : Fault) :
    sysWrite fd bs f = match granted f bs.length with
      | none => (-1, fd)
      | some k => (((bs.take k).length : Int),
          { data := writeAt fd.data fd.pos (bs.take k), pos := fd.pos + (bs.take k).length }) := by
  cases f with
  | ok => simp [sysWrite, granted]
  | short k => rfl
  | eintr => rfl
  | fail => rfl

theorem sysWrite_count (fd : Fd) (bs : Bytes) (f : Fault) (r : Int) (fd' : Fd)
    (h : sysWrite fd bs f = (r, fd')) (hr : r ≠ -1) :
    ∃ k : Nat, r = (k : Int) ∧ k ≤ bs.length ∧ (bs ≠ [] → 0 < k) ∧
      fd'.data = writeAt fd.data fd.pos (bs.take k) ∧ fd'.pos = fd.pos + k := by
  rw [sysWrite_eq] at h
  cases hg : granted f bs.length with
  | none => simp only [hg] at h; exact absurd (congrArg Prod.fst h).symm hr
  | some k =>
    obtain ⟨hk, hpos⟩ := granted_le hg
    simp only [hg, List.length_take_of_le hk] at h
    obtain ⟨rfl, rfl⟩ := Prod.mk.inj h
    exact ⟨k, rfl, hk, fun hb => hpos (List.length_pos_iff.2 hb), rfl, rfl⟩

theorem sysWrite_full (fd : Fd) (bs : Bytes) (f : Fault) (r : Int) (fd' : Fd)
    (h : sysWrite fd bs f = (r, fd')) (hr : r ≠ -1) (hfull : ¬ r.toNat < bs.length) :
    fd'.data = writeAt fd.data fd.pos bs ∧ fd'.pos = fd.pos + bs.length := by
  obtain ⟨k, rfl, hk, _, hd, hp⟩ := sysWrite_count fd bs f r fd' h hr
  have : k = bs.length := by simp only [Int.toNat_natCast] at hfull; omega
  rw [hd, hp, this, List.take_length]
  exact ⟨rfl, rfl⟩

/-- `write_data` reports success only if exactly the given bytes are now in the file at the offset the descriptor had,
and the offset has moved past them -/
theorem write_data_sound (fd fd' : Fd) (bs : Bytes) (sch sch' : List Fault)
    (h : writeData fd bs sch = (true, fd', sch')) :
    fd'.data = writeAt fd.data fd.pos bs ∧ fd'.pos = fd.pos + bs.length := by
  unfold writeData at h
  by_cases he : bs.isEmpty = true
  · simp only [he, ↓reduceIte, Prod.mk.injEq, true_and] at h
    rw [← h.1, List.isEmpty_iff.1 he]
    exact ⟨rfl, rfl⟩
  · simp only [he, Bool.false_eq_true, ↓reduceIte] at h
    generalize hs1 : sysWrite fd bs (nextFault sch).1 = w1 at h
    obtain ⟨r1, fd1⟩ := w1
    by_cases hr1 : r1 = -1
    · simp [hr1] at h
    · simp only [hr1, ↓reduceIte] at h
      by_cases hshort : r1.toNat < bs.length
      · -- a short first write of `k1` bytes: the second call must bring all the rest
        simp only [hshort, ↓reduceIte] at h
        generalize hs2 : sysWrite fd1 (bs.drop r1.toNat) (nextFault (nextFault sch).2).1 = w2 at h
        obtain ⟨r2, fd2⟩ := w2
        by_cases hr2 : r2 = -1
        · simp [hr2] at h
        · simp only [hr2, ↓reduceIte] at h
          by_cases hfull : r2.toNat < (bs.drop r1.toNat).length
          · rw [if_pos hfull] at h; cases h
          · simp only [hfull, ↓reduceIte, Prod.mk.injEq, true_and] at h
            rw [← h.1]
            obtain ⟨k1, rfl, l1, -, d1, q1⟩ := sysWrite_count fd bs _ r1 fd1 hs1 hr1
            obtain ⟨d2, q2⟩ := sysWrite_full fd1 _ _ r2 fd2 hs2 hr2 hfull
            rw [Int.toNat_natCast] at d2 q2
            have htl : (bs.take k1).length = k1 := List.length_take_of_le l1
            have := writeAt_writeAt fd.data fd.pos (bs.take k1) (bs.drop k1)
            rw [htl, List.take_append_drop] at this
            rw [d2, q2, d1, q1, List.length_drop, Nat.add_assoc, Nat.add_sub_cancel' l1]
            exact ⟨this, rfl⟩
      · simp only [hshort, ↓reduceIte, Prod.mk.injEq, true_and] at h
        rw [← h.1]
        exact sysWrite_full fd bs _ r1 fd1 hs1 hr1 hshort

theorem sysRead_bytes (fd : Fd) (n : Nat) (f : Fault) (r : Int) (bs : Bytes) (fd' : Fd)
    (h : sysRead fd n f = (r, bs, fd')) :
    fd'.data = fd.data ∧ fd'.pos = fd.pos + bs.length ∧ bs.length ≤ n ∧
    bs = (fd.data.drop fd.pos).take bs.length ∧ (r ≠ -1 → r = bs.length) ∧
    (r = -1 → bs = []) := by
  rw [sysRead_eq] at h
  cases hg : granted f n with
  | none =>
    simp only [hg] at h
    obtain ⟨rfl, rfl, rfl⟩ := h
    exact ⟨rfl, rfl, Nat.zero_le _, rfl, fun h => absurd rfl h, fun _ => rfl⟩
  | some k =>
    simp only [hg] at h
    obtain ⟨rfl, rfl, rfl⟩ := h
    refine ⟨rfl, rfl, Nat.le_trans (length_fileRead_le ..) (granted_le hg).1, (fileRead_self ..).symm, fun _ => rfl,
      fun h0 => ?_⟩
    omega

theorem sysRead_eof (fd : Fd) (n : Nat) (f : Fault) (r : Int) (fd' : Fd) (hn : 0 < n)
    (h : sysRead fd n f = (r, [], fd')) (hr : r ≠ -1) : fd.data.length ≤ fd.pos := by
  rw [sysRead_eq] at h
  cases hg : granted f n with
  | none => simp only [hg] at h; exact absurd (congrArg Prod.fst h).symm hr
  | some k =>
    simp only [hg] at h
    have := congrArg List.length (congrArg (·.2.1) h)
    simp only [length_fileRead, List.length_nil] at this
    have := (granted_le hg).2 hn
    omega

/-- the conclusion of `read_data_sound`, for the loop: `acc` has been read and `want` bytes are still asked for -/
def ReadOk (fd : Fd) (want : Nat) (acc : Bytes) (r : Int) (out : Bytes) (fd' : Fd) : Prop :=
  fd'.data = fd.data ∧ ∃ got, out = acc ++ got ∧ got = (fd.data.drop fd.pos).take got.length ∧
    fd'.pos = fd.pos + got.length ∧ got.length ≤ want ∧ (r ≠ -1 → r = out.length)

theorem ReadOk.nil (fd : Fd) (want : Nat) (acc : Bytes) (r : Int) (h : r ≠ -1 → r = acc.length) :
    ReadOk fd want acc r acc fd :=
  ⟨rfl, [], (List.append_nil _).symm, rfl, rfl, Nat.zero_le _, h⟩

theorem ReadOk.of_same {fd fd1 fd' : Fd} {want : Nat} {acc out : Bytes} {r : Int} (hd : fd1.data = fd.data)
    (hp : fd1.pos = fd.pos) (h : ReadOk fd1 want acc r out fd') : ReadOk fd want acc r out fd' := by
  unfold ReadOk at h ⊢
  rwa [hd, hp] at h

theorem ReadOk.step {fd fd1 fd' : Fd} {want : Nat} {acc bs out : Bytes} {r : Int} (hd : fd1.data = fd.data)
    (hp : fd1.pos = fd.pos + bs.length) (hbs : bs = (fd.data.drop fd.pos).take bs.length) (hle : bs.length ≤ want)
    (h : ReadOk fd1 (want - bs.length) (acc ++ bs) r out fd') : ReadOk fd want acc r out fd' := by
  obtain ⟨i1, got, i2, i3, i4, i5, i6⟩ := h
  rw [hd, hp] at i3
  refine ⟨i1.trans hd, bs ++ got, by rw [i2, List.append_assoc], fileRead_append_eq _ _ _ _ hbs i3, ?_, ?_, i6⟩
  · rw [i4, hp, List.length_append, Nat.add_assoc]
  · rw [List.length_append]; omega

/-- whatever `read_data` returns (even together with an error) was read from the file at the descriptor's offset, in order
and without gaps, and is no more than was asked for; the offset has moved past it; the file is unchanged; a count that is
not -1 is the length of what is returned -/
theorem read_data_sound : ∀ (fuel : Nat) (fd : Fd) (want : Nat) (sch : List Fault) (acc : Bytes)
    (r : Int) (out : Bytes) (fd' : Fd) (sch' : List Fault),
    readData fuel fd want sch acc = (r, out, fd', sch') →
    fd'.data = fd.data ∧ ∃ got, out = acc ++ got ∧ got = (fd.data.drop fd.pos).take got.length ∧
      fd'.pos = fd.pos + got.length ∧ got.length ≤ want ∧ (r ≠ -1 → r = out.length)
  | 0, fd, want, sch, acc, r, out, fd', sch', h => by
    obtain ⟨rfl, rfl, rfl, rfl⟩ := h
    exact ReadOk.nil fd want acc _ fun _ => rfl
  | fuel + 1, fd, want, sch, acc, r, out, fd', sch', h => by
    unfold readData at h
    by_cases hw : want = 0
    · simp only [hw, ↓reduceIte, Prod.mk.injEq] at h
      obtain ⟨rfl, rfl, rfl, rfl⟩ := h
      exact ReadOk.nil fd want acc _ fun _ => rfl
    · simp only [hw, ↓reduceIte] at h
      generalize hs : sysRead fd want (nextFault sch).1 = s at h
      obtain ⟨r1, bs, fd1⟩ := s
      obtain ⟨a1, a2, a3, a4, -, a6⟩ := sysRead_bytes fd want _ r1 bs fd1 hs
      by_cases hr : r1 = -1
      · -- a failed call transfers nothing: `read_data` goes on after EINTR and gives up otherwise
        simp only [hr, ↓reduceIte] at h
        rw [a6 hr] at a2
        by_cases he : (nextFault sch).1 = Fault.eintr
        · simp only [he, ↓reduceIte] at h
          exact ReadOk.of_same a1 a2 (read_data_sound fuel fd1 want _ acc r out fd' sch' h)
        · simp only [he, ↓reduceIte, Prod.mk.injEq] at h
          obtain ⟨rfl, rfl, rfl, rfl⟩ := h
          exact (ReadOk.nil fd1 want acc _ fun h => absurd rfl h).of_same a1 a2
      · simp only [hr, ↓reduceIte] at h
        by_cases hz : bs.length = 0
        · simp only [hz, ↓reduceIte, Prod.mk.injEq] at h
          obtain ⟨rfl, rfl, rfl, rfl⟩ := h
          rw [hz] at a2
          exact (ReadOk.nil fd1 want acc _ fun _ => rfl).of_same a1 a2
        · simp only [hz, ↓reduceIte] at h
          exact ReadOk.step a1 a2 a4 a3 (read_data_sound fuel fd1 (want - bs.length) _ (acc ++ bs) r out fd' sch' h)

/-- the loop of `chunks_from_temp`, from any offset of the temp file: behind its end there is nothing to copy -/
theorem tempLoop_spec : ∀ (fuel : Nat) (tmp out : Fd) (sch : List Fault) (out' : Fd) (sch' : List Fault),
    tempLoop fuel tmp out sch = (true, out', sch') →
    out'.data = writeAt out.data out.pos (tmp.data.drop tmp.pos) ∧ out'.pos = out.pos + (tmp.data.drop tmp.pos).length
  | 0, _, _, _, _, _, h => by simp [tempLoop] at h
  | fuel + 1, tmp, out, sch, out', sch', h => by
    unfold tempLoop at h
    simp only at h
    generalize hs : sysRead tmp BUF (nextFault sch).1 = s at h
    obtain ⟨r, bs, tmp'⟩ := s
    obtain ⟨a1, a2, -, a4, -, -⟩ := sysRead_bytes tmp BUF _ r bs tmp' hs
    by_cases hr : r = -1
    · simp [hr] at h
    · simp only [hr, ↓reduceIte] at h
      by_cases hz : bs.length = 0
      · simp only [hz, ↓reduceIte, Prod.mk.injEq, true_and] at h
        rw [← h.1, List.drop_eq_nil_of_le
          (sysRead_eof tmp BUF _ r tmp' (by decide) (List.eq_nil_of_length_eq_zero hz ▸ hs) hr)]
        exact ⟨rfl, rfl⟩
      · simp only [hz, ↓reduceIte] at h
        generalize hw : writeData out bs (nextFault sch).2 = w at h
        obtain ⟨ok, out1, sch2⟩ := w
        cases ok with
        | false => simp at h
        | true =>
          obtain ⟨w1, w2⟩ := write_data_sound out out1 bs _ sch2 hw
          obtain ⟨i1, i2⟩ := tempLoop_spec fuel tmp' out1 sch2 out' sch' h
          -- the rest of the temp file is `bs` and what lies behind it; two writes in a row are one write of the concatenation
          rw [drop_eq_fileRead_append tmp.data tmp.pos bs.length, ← show bs = fileRead _ _ _ from a4,
            ← writeAt_writeAt, List.length_append, ← Nat.add_assoc]
          rw [a1, a2, w1, w2] at i1
          rw [a1, a2, w2] at i2
          exact ⟨i1, i2⟩

/-- `tempLoop_spec` with the length of the rest written as a difference; the hypothesis on the offset is not used -/
theorem tempLoop_sound : ∀ (fuel : Nat) (tmp out : Fd) (sch : List Fault) (out' : Fd) (sch' : List Fault),
    tmp.pos ≤ tmp.data.length → tempLoop fuel tmp out sch = (true, out', sch') →
    out'.data = writeAt out.data out.pos (tmp.data.drop tmp.pos) ∧ out'.pos = out.pos + (tmp.data.length - tmp.pos) :=
  fun fuel tmp out sch out' sch' _ h => List.length_drop ▸ tempLoop_spec fuel tmp out sch out' sch' h

/-- `chunks_from_temp` (failing seek, short or failing reads of the temp file, short or failing writes to the output) reports
success only if the WHOLE temp file is now in the output at the offset the output's descriptor had, and that offset has moved
past it: no chunk body is lost, duplicated or reordered on the way into the final file -/
theorem chunks_from_temp_sound (tmp out : Fd) (sch : List Fault) (out' : Fd) (sch' : List Fault)
    (h : chunksFromTemp tmp out sch = (true, out', sch')) :
    out'.data = writeAt out.data out.pos tmp.data ∧ out'.pos = out.pos + tmp.data.length := by
  unfold chunksFromTemp at h
  simp only at h
  split at h
  · simp at h
  · have := tempLoop_sound _ { tmp with pos := 0 } out _ out' sch' (Nat.zero_le _) h
    simpa using this

end Zck.C12
