/-
C05 — Range reassembly is fragmentation-independent, verified and confined.
Theorems about the model of the download callbacks (`Dl.lean`), for an ARBITRARY hash function, ARBITRARY
regex oracle (whatever `regcomp`/`regexec` answer) and ARBITRARY bytes and fragmentations unless a
hypothesis says otherwise.  Here: confinement and verification, as predicates every callback preserves.  Fragmentation independence
is in `C05Frag.lean` (single range) and `C05Multipart.lean`, completeness in `C05Complete.lean` and `C05MpComplete.lean`.
-/
import ZckModel.DlLemmas
import ZckModel.Props.Run

namespace Zck.C05
open Zck.Format Zck.Dl Zck.Copy

/-- chunk `k` may be filled (`v0`: the marks when the session began) -/
def Allowed (e : Env) (v0 : List Int) (k : Nat) : Prop := v0.getD k 0 ≠ 1 ∧ ∃ rc ∈ e.ridx, rc.tgt = k

/-- offset `i` is outside the extents of all chunks that may be filled (header, valid chunks, chunks not requested,
anything beyond the data) -/
def Outside (e : Env) (v0 : List Int) (i : Nat) : Prop :=
  ∀ k tc, e.hdr.chunks[k]? = some tc → Allowed e v0 k →
    (i < e.dataOff + tc.start ∨ e.dataOff + tc.start + tc.compLen ≤ i)

/-- what every callback preserves (`f0`, `v0`: target file and chunk marks when the session began) -/
structure Good (e : Env) (f0 : Bytes) (v0 : List Int) (st : St) : Prop where
  file : ∀ i, Outside e v0 i → st.file.getD i 0 = f0.getD i 0
  keep : ∀ k, v0.getD k 0 = 1 → st.valid.getD k 0 = 1
  chk  : ∀ k, st.tgtCheck = some k → Allowed e v0 k ∧ ∃ tc, e.hdr.chunks[k]? = some tc
  wic  : st.writeInChunk > 0 → ∃ k tc, st.tgtCheck = some k ∧ e.hdr.chunks[k]? = some tc ∧
           e.dataOff + tc.start ≤ st.pos ∧ st.pos + st.writeInChunk = e.dataOff + tc.start + tc.compLen

theorem Good.congr {e : Env} {f0 : Bytes} {v0 : List Int} {st st' : St} (h : Good e f0 v0 st)
    (h1 : st'.file = st.file) (h2 : st'.pos = st.pos) (h3 : st'.valid = st.valid)
    (h4 : st'.writeInChunk = st.writeInChunk) (h5 : st'.tgtCheck = st.tgtCheck) : Good e f0 v0 st' :=
  ⟨by rw [h1]; exact h.file, by rw [h3]; exact h.keep, by rw [h5]; exact h.chk, by rw [h5, h4, h2]; exact h.wic⟩

theorem writeAt_allowed (e : Env) (v0 : List Int) (k : Nat) (c : Chunk) (hc : e.hdr.chunks[k]? = some c)
    (ha : Allowed e v0 k) (f : Bytes) (off : Nat) (d : Bytes) (hlo : e.dataOff + c.start ≤ off)
    (hhi : off + d.length ≤ e.dataOff + c.start + c.compLen) (i : Nat) (hi : Outside e v0 i) :
    (writeAt f off d).getD i 0 = f.getD i 0 :=
  by rw [getD_writeAt, if_neg (by have := hi k c hc ha; omega)]

theorem good_setChunkValid (e : Env) (f0 : Bytes) (v0 : List Int) (st : St) (k : Nat)
    (h : Good e f0 v0 st) (hk : st.tgtCheck = some k) (hw : st.writeInChunk = 0) :
    Good e f0 v0 (setChunkValid e st k).2 ∧ (setChunkValid e st k).2.writeInChunk = 0 := by
  obtain ⟨ha, tc, htc⟩ := h.chk k hk
  have hkeep : ∀ v k', v0.getD k' 0 = 1 → (st.valid.set k v).getD k' 0 = 1 := fun v k' hk' => by
    rw [getD_set_of_ne (fun heq : k' = k => ha.1 (heq ▸ hk'))]; exact h.keep k' hk'
  rcases setChunkValid_spec e st k tc htc with ⟨_, _, _, heq⟩ | ⟨_, heq⟩ <;> rw [heq]
  · exact ⟨⟨h.file, hkeep 1, fun k' hk' => by simp at hk', fun hpos => absurd hw (Nat.ne_of_gt hpos)⟩, hw⟩
  · refine ⟨⟨fun i hi => ?_, hkeep (-1), h.chk, fun hpos => absurd hw (Nat.ne_of_gt hpos)⟩, hw⟩
    exact (writeAt_allowed e v0 k tc htc ha _ _ _ (Nat.le_refl _) (by simp [length_zeros]) i hi).trans (h.file i hi)

theorem good_wrote (e : Env) (f0 : Bytes) (v0 : List Int) (st : St) (x : Bytes) (h : Good e f0 v0 st)
    (hw : 0 < st.writeInChunk) : Good e f0 v0 (st.wrote (x.take st.writeInChunk)) := by
  obtain ⟨k, tc, hk, htc, hlo, hhi⟩ := h.wic hw
  have hl : (x.take st.writeInChunk).length ≤ st.writeInChunk := List.length_take_le _ _
  refine ⟨fun i hi => ?_, h.keep, h.chk, fun _ => ⟨k, tc, hk, htc, ?_, ?_⟩⟩
  · exact (writeAt_allowed e v0 k tc htc (h.chk k hk).1 _ _ _ hlo (by omega) i hi).trans (h.file i hi)
  · show e.dataOff + tc.start ≤ st.pos + _; omega
  · show st.pos + _ + (st.writeInChunk - _) = _; omega

theorem good_dlWrite (e : Env) (f0 : Bytes) (v0 : List Int) (st : St) (at_ : Bytes) (h : Good e f0 v0 st) :
    Good e f0 v0 (dlWrite st at_).2 := by
  refine dlWrite_cases st at_ (fun _ => h) (fun d hw hd _ => ?_) (fun d acc hw hd _ _ => ?_) <;>
    exact (hd ▸ good_wrote e f0 v0 st at_ h hw).congr rfl rfl rfl rfl rfl

theorem good_dlVerify (e : Env) (f0 : Bytes) (v0 : List Int) (st : St)
    (h : Good e f0 v0 st) (hw : st.writeInChunk = 0) :
    Good e f0 v0 (dlVerify e st).2 ∧ (dlVerify e st).2.writeInChunk = 0 := by
  unfold dlVerify
  cases hk : st.tgtCheck with
  | none => exact ⟨h, hw⟩
  | some k => exact good_setChunkValid e f0 v0 st k h hk hw

theorem good_dlOpen (e : Env) (f0 : Bytes) (v0 : List Int) (st : St) (hg : Good e f0 v0 st) :
    Good e f0 v0 (dlOpen e st) := by
  rcases dlOpen_spec e st with heq | ⟨j, rc, tc, hmem, hel, htc, heq⟩ <;> rw [heq]
  · exact hg.congr rfl rfl rfl rfl rfl
  · have hal : Allowed e v0 rc.tgt := ⟨fun h1 => hel.2.1 (hg.keep _ h1), rc, hmem, rfl⟩
    obtain ⟨tc', htc', hsz⟩ := hel.2.2
    refine ⟨hg.file, hg.keep, fun k hk => ?_, fun _ => ⟨rc.tgt, tc, rfl, htc, Nat.le_refl _, ?_⟩⟩
    · simp only [Option.some.injEq] at hk
      exact hk ▸ ⟨hal, tc, htc⟩
    · rw [htc] at htc'; simp only [Option.some.injEq] at htc'; subst htc'
      show e.dataOff + tc.start + rc.compLen = _; omega

/-- a predicate on the six fields the write path uses that the three primitive steps keep; such a predicate is kept by every
callback, so by a session (`pres_session`) -/
structure Preserved (e : Env) (P : St → Prop) : Prop where
  frame  : ∀ st st' : St, P st → st'.file = st.file → st'.pos = st.pos → st'.valid = st.valid → st'.hash = st.hash →
             st'.writeInChunk = st.writeInChunk → st'.tgtCheck = st.tgtCheck → P st'
  write  : ∀ st at_, P st → P (dlWrite st at_).2
  verify : ∀ st, P st → st.writeInChunk = 0 → P (dlVerify e st).2 ∧ (dlVerify e st).2.writeInChunk = 0
  opens  : ∀ st, P st → st.writeInChunk = 0 → P (dlOpen e st)

theorem Preserved.of_core {e : Env} {P : St → Prop} (hp : Preserved e P) {st st' : St} (h : P st) (hc : st'.core = st.core) :
    P st' := by
  simp only [St.core, Prod.mk.injEq] at hc
  exact hp.frame st st' h hc.1 hc.2.1 hc.2.2.1 hc.2.2.2.1 hc.2.2.2.2.1 hc.2.2.2.2.2

theorem pres_dlSelect (e : Env) {P : St → Prop} (hp : Preserved e P) (st : St)
    (h : P st) (hw : st.writeInChunk = 0) : P (dlSelect e st).2 := by
  unfold dlSelect
  have hv := hp.verify st h hw
  simp only
  split
  · exact hv.1
  · exact hp.opens _ hv.1 hv.2

theorem pres_dlWriteRange (e : Env) {P : St → Prop} (hp : Preserved e P) : ∀ (fuel : Nat) (st : St) (at_ : Bytes),
    P st → P (dlWriteRange e fuel st at_).2 := fun fuel st at_ =>
  dwr_lift e (fun _ h => hp.of_core h rfl) hp.write (pres_dlSelect e hp) fuel st at_
    (.inr fun _ h => hp.of_core h rfl)

theorem pres_mpPartHeader (e : Env) {P : St → Prop} (hp : Preserved e P) (s : Bytes) (st : St) (h : P st) :
    P (mpPartHeader e s st).2 :=
  hp.of_core h (mpPartHeader_core e s st)

theorem pres_mpPayload (e : Env) {P : St → Prop} (hp : Preserved e P) (buf : Bytes) (i hs : Nat) (st : St) (h : P st) :
    P (mpPayload e buf i hs st).2.2.2 :=
  pres_dlWriteRange e hp _ _ _ (hp.of_core h rfl)

theorem pres_mpLoop (e : Env) {P : St → Prop} (hp : Preserved e P) (fuel : Nat) (buf : Bytes) (i hs : Nat) (st : St)
    (h : P st) : P (mpLoop e fuel buf i hs st).2 :=
  C17.mpLoop_lift e (fun buf i hs st => pres_mpPayload e hp buf i hs st) (pres_mpPartHeader e hp)
    (fun _ _ h => hp.of_core h rfl) fuel buf i hs st
    (.inr fun _ h => hp.of_core h rfl) h

theorem pres_mpExtract (e : Env) {P : St → Prop} (hp : Preserved e P) (st : St) (b : Bytes) (h : P st) :
    P (mpExtract e st b).2 := by
  have h2 : P (mpEnsureRx e (mpJoin st b).2).2 :=
    hp.of_core h ((mpEnsureRx_core e _).trans (mpJoin_core st b))
  unfold mpExtract
  split
  · exact h
  · dsimp only
    split
    · exact h2
    · exact pres_mpLoop e hp _ _ _ _ _ h2

theorem pres_getBoundary (e : Env) {P : St → Prop} (hp : Preserved e P) (st : St) (b : Bytes) (h : P st) :
    P (getBoundary e st b) :=
  hp.of_core h (getBoundary_core e st b)

theorem pres_writeChunkCb (e : Env) {P : St → Prop} (hp : Preserved e P) (st : St) (b : Bytes) (h : P st) :
    P (writeChunkCb e st b).2 :=
  writeChunkCb_lift e (fun _ _ h => hp.of_core h rfl) (pres_mpExtract e hp)
    (fun _ _ => pres_dlWriteRange e hp _ _ _) st b h

theorem pres_feed (e : Env) {P : St → Prop} (hp : Preserved e P) (stop clear : Bool) : ∀ (frags : List Bytes) (st : St) (acc : List Nat),
    P st → P (feed e stop clear st frags acc).2 :=
  feed_lift e (pres_writeChunkCb e hp) (fun _ h => hp.of_core h rfl) stop clear

/-- a session: the header lines, then the body -/
theorem pres_session (e : Env) {P : St → Prop} (hp : Preserved e P) (stop clear : Bool) (lines frags : List Bytes) (st : St)
    (h : P st) : P (feed e stop clear (feedHdrs e st lines []).2 frags []).2 :=
  pres_feed e hp stop clear frags _ [] (feedHdrs_lift e (pres_getBoundary e hp) lines st [] h)

theorem good_init (e : Env) (st : St) (h1 : st.tgtCheck = none) (h2 : st.writeInChunk = 0) :
    Good e st.file st.valid st :=
  ⟨fun _ _ => rfl, fun _ h => h, fun k hk => by rw [h1] at hk; simp at hk, fun hpos => by omega⟩

theorem good_preserved (e : Env) (f0 : Bytes) (v0 : List Int) : Preserved e (Good e f0 v0) where
  frame := fun _ _ h h1 h2 h3 _ h4 h5 => h.congr h1 h2 h3 h4 h5
  write := fun st at_ h => good_dlWrite e f0 v0 st at_ h
  verify := fun st h hw => good_dlVerify e f0 v0 st h hw
  opens := fun st h _ => good_dlOpen e f0 v0 st h

theorem preserved_of_file_valid (e : Env) (Q : Bytes → List Int → Prop)
    (hw : ∀ f v off d, Q f v → Q (writeAt f off d) v) (hs : ∀ f v k x, Q f v → Q f (v.set k x)) :
    Preserved e (fun st => Q st.file st.valid) where
  frame := fun _ _ h h1 _ h3 _ _ _ => by rw [h1, h3]; exact h
  write := fun st x h =>
    dlWrite_cases st x (fun _ => h) (fun _ _ _ _ => hw _ _ _ _ h) (fun _ _ _ _ _ _ => hw _ _ _ _ h)
  verify := fun st h hw' => by
    refine ⟨?_, by rw [dlVerify_wic]; exact hw'⟩
    cases hk : st.tgtCheck with
    | none => rw [dlVerify_none e st hk]; exact h
    | some k =>
      rw [dlVerify_some e st k hk]
      cases hc : e.hdr.chunks[k]? with
      | none => rw [setChunkValid_none e st k hc]; exact h
      | some c =>
        rcases setChunkValid_spec e st k c hc with ⟨_, _, _, heq⟩ | ⟨_, heq⟩ <;> rw [heq]
        · exact hs _ _ _ _ h
        · exact hs _ _ _ _ (hw _ _ _ _ h)
  opens := fun st h _ => by
    rcases dlOpen_spec e st with heq | ⟨_, _, _, _, _, _, heq⟩ <;> rw [heq] <;> exact h

/-- C05 / C17 (confinement): whatever bytes arrive as header lines and as body, however they are cut into callback invocations,
whatever the regex functions answer, whether or not the transport stops at a refusal or the application clears errors: no byte of
the target outside the extents of the requested, not yet valid chunks changes, and every chunk that was valid stays marked valid -/
theorem confined (e : Env) (st : St) (lines frags : List Bytes) (stop clear : Bool)
    (h1 : st.tgtCheck = none) (h2 : st.writeInChunk = 0) :
    let fin := (feed e stop clear (feedHdrs e st lines []).2 frags []).2
    (∀ i, Outside e st.valid i → fin.file.getD i 0 = st.file.getD i 0) ∧
    (∀ k, st.valid.getD k 0 = 1 → fin.valid.getD k 0 = 1) := by
  have hg := pres_session e (good_preserved e st.file st.valid) stop clear lines frags st (good_init e st h1 h2)
  exact ⟨hg.file, hg.keep⟩

/-- `fileRead_writeAt_disjoint` and `fileRead_writeAt_append` on `(f.drop s).take n`, as C05's statements write a slice; the first has
no user left -/
theorem slice_writeAt_disjoint (f : Bytes) (off : Nat) (bs : Bytes) (s n : Nat)
    (hd : off + bs.length ≤ s ∨ s + n ≤ off) (hf : s + n ≤ f.length) :
    ((writeAt f off bs).drop s).take n = (f.drop s).take n ∧ s + n ≤ (writeAt f off bs).length :=
  ⟨fileRead_writeAt_disjoint f off bs s n hd (by omega), Nat.le_trans hf (length_writeAt_ge f off bs)⟩

theorem slice_writeAt_append (f : Bytes) (s : Nat) (acc d : Bytes)
    (h : (f.drop s).take acc.length = acc) :
    ((writeAt f (s + acc.length) d).drop s).take (acc.length + d.length) = acc ++ d := by
  have hl := congrArg List.length h
  simp only [List.length_take, List.length_drop] at hl
  exact (fileRead_writeAt_append f s acc.length d (by omega)).trans (congrArg (· ++ d) h)

/-- the target holds chunk `tc` (the reference parser's `storedChecked`) -/
def ChunkOk (e : Env) (f : Bytes) (tc : Chunk) : Prop :=
  if tc.compLen = 0 then (hsize e.hdr.chunkHashType).map zeros = some tc.digest
  else e.dataOff + tc.start + tc.compLen ≤ f.length ∧
    e.H e.hdr.chunkHashType ((f.drop (e.dataOff + tc.start)).take tc.compLen) = some tc.digest

/-- extents of different chunks do not overlap (true of every parsed header, starts being running sums: `disj_of_open` in
`C17.lean`, where the header reader's theorems are at hand) -/
def Disj (e : Env) : Prop :=
  ∀ (k k' : Nat) (tc tc' : Chunk), e.hdr.chunks[k]? = some tc → e.hdr.chunks[k']? = some tc' → k ≠ k' →
    (tc.start + tc.compLen ≤ tc'.start ∨ tc'.start + tc'.compLen ≤ tc.start)

/-- the verification side of the invariant; `link`: the running hash is the bytes written so far at the extent of the chunk under
verification -/
structure Ver (e : Env) (v0 : List Int) (st : St) : Prop where
  ok   : ∀ k tc, e.hdr.chunks[k]? = some tc → Allowed e v0 k → st.valid.getD k 0 = 1 → ChunkOk e st.file tc
  link : ∀ k tc acc, st.tgtCheck = some k → e.hdr.chunks[k]? = some tc → st.hash = some acc →
           acc.length + st.writeInChunk = tc.compLen ∧ st.pos = e.dataOff + tc.start + acc.length ∧
           (st.file.drop (e.dataOff + tc.start)).take acc.length = acc
  notv : ∀ k, st.tgtCheck = some k → st.valid.getD k 0 ≠ 1
  same : ∀ k, ¬ Allowed e v0 k → st.valid.getD k 0 = v0.getD k 0

def GV (e : Env) (f0 : Bytes) (v0 : List Int) (st : St) : Prop := Good e f0 v0 st ∧ Ver e v0 st

theorem chunkOk_of_getD (e : Env) (f g : Bytes) (tc : Chunk) (hl : f.length ≤ g.length ∨ e.dataOff + tc.start + tc.compLen ≤ g.length)
    (h : ∀ i, e.dataOff + tc.start ≤ i → i < e.dataOff + tc.start + tc.compLen → g.getD i 0 = f.getD i 0)
    (hok : ChunkOk e f tc) : ChunkOk e g tc := by
  unfold ChunkOk at hok ⊢
  by_cases hz : tc.compLen = 0
  · rw [if_pos hz] at hok ⊢; exact hok
  · rw [if_neg hz] at hok ⊢
    rw [show (g.drop _).take _ = (f.drop _).take _ from Reader.fileRead_congr f g _ _ (by omega) (by omega) h]
    exact ⟨by omega, hok.2⟩

theorem chunkOk_writeAt (e : Env) (hd : Disj e) (f : Bytes) (k k' : Nat) (tc tc' : Chunk)
    (hk : e.hdr.chunks[k]? = some tc) (hk' : e.hdr.chunks[k']? = some tc') (hne : k ≠ k')
    (off : Nat) (bs : Bytes) (hlo : e.dataOff + tc'.start ≤ off) (hhi : off + bs.length ≤ e.dataOff + tc'.start + tc'.compLen)
    (h : ChunkOk e f tc) : ChunkOk e (writeAt f off bs) tc :=
  chunkOk_of_getD e f _ tc (.inl (length_writeAt_ge f off bs))
    (fun i _ _ => by rw [getD_writeAt, if_neg (by have := hd k k' tc tc' hk hk' hne; omega)]) h

theorem ver_ok_wrote (e : Env) (hd : Disj e) (f0 : Bytes) (v0 : List Int) (st : St) (hg : Good e f0 v0 st) (hv : Ver e v0 st)
    (hw : 0 < st.writeInChunk) (d : Bytes) (hl : d.length ≤ st.writeInChunk) (k2 : Nat) (tc2 : Chunk)
    (h2 : e.hdr.chunks[k2]? = some tc2) (ha2 : Allowed e v0 k2) (hv2 : st.valid.getD k2 0 = 1) :
    ChunkOk e (writeAt st.file st.pos d) tc2 := by
  obtain ⟨k, tc, hk, htc, hlo, hhi⟩ := hg.wic hw
  exact chunkOk_writeAt e hd st.file k2 k tc2 tc h2 htc (fun heq => hv.notv _ hk (heq ▸ hv2)) st.pos _ hlo (by omega)
    (hv.ok k2 tc2 h2 ha2 hv2)

theorem gv_dlWrite (e : Env) (hd : Disj e) (f0 : Bytes) (v0 : List Int) (st : St) (at_ : Bytes) (h : GV e f0 v0 st) :
    GV e f0 v0 (dlWrite st at_).2 := by
  refine ⟨good_dlWrite e f0 v0 st at_ h.1, ?_⟩
  obtain ⟨hg, hv⟩ := h
  have hl : (at_.take st.writeInChunk).length ≤ st.writeInChunk := List.length_take_le _ _
  refine dlWrite_cases st at_ (fun _ => hv) (fun d hw hd' hr => ?_) (fun d acc hw hd' hne hh => ?_) <;> subst hd'
  · refine ⟨ver_ok_wrote e hd f0 v0 st hg hv hw _ hl, fun k2 tc2 acc hk2 h2 hacc => ?_, hv.notv, hv.same⟩
    rcases hr with h0 | h0
    · rw [h0]; exact hv.link k2 tc2 acc hk2 h2 hacc
    · exact absurd (h0 ▸ hacc : (none : Option Bytes) = some acc) (by simp)
  · refine ⟨ver_ok_wrote e hd f0 v0 st hg hv hw _ hl, fun k2 tc2 acc2 hk2 h2 hacc => ?_, hv.notv, hv.same⟩
    obtain ⟨l1, l2, l3⟩ := hv.link k2 tc2 acc hk2 h2 hh
    simp only [Option.some.injEq] at hacc
    subst hacc
    refine ⟨by simp only [List.length_append]; show _ + (st.writeInChunk - _) = _; omega,
      by simp only [List.length_append]; show st.pos + _ = _; omega, ?_⟩
    have := slice_writeAt_append st.file (e.dataOff + tc2.start) acc (at_.take st.writeInChunk) l3
    rw [← l2] at this
    rw [List.length_append]; exact this

theorem getD_set_self_ne_one (l : List Int) (k : Nat) (v : Int) (hv : v ≠ 1) (h : l.getD k 0 ≠ 1) :
    (l.set k v).getD k 0 ≠ 1 := by
  rw [getD_set]; split <;> assumption

theorem gv_setChunkValid (e : Env) (hd : Disj e) (f0 : Bytes) (v0 : List Int) (st : St) (k : Nat)
    (h : GV e f0 v0 st) (hk : st.tgtCheck = some k) (hw : st.writeInChunk = 0) :
    GV e f0 v0 (setChunkValid e st k).2 ∧ (setChunkValid e st k).2.writeInChunk = 0 := by
  have hg := good_setChunkValid e f0 v0 st k h.1 hk hw
  refine ⟨⟨hg.1, ?_⟩, hg.2⟩
  obtain ⟨hgood, hv⟩ := h
  obtain ⟨ha, tc, htc⟩ := hgood.chk k hk
  have hsame : ∀ v k2, ¬ Allowed e v0 k2 → (st.valid.set k v).getD k2 0 = v0.getD k2 0 := fun v k2 hn => by
    rw [getD_set_of_ne (fun heq : k2 = k => hn (heq ▸ ha))]; exact hv.same k2 hn
  rcases setChunkValid_spec e st k tc htc with ⟨acc, hh, hdg, heq⟩ | ⟨_, heq⟩ <;> rw [heq]
  · -- verified: the bytes hashed are the bytes at the extent
    obtain ⟨l1, l2, l3⟩ := hv.link k tc acc hk htc hh
    refine ⟨fun k2 tc2 h2 ha2 hv2 => ?_, fun k2 _ _ hk2 => by simp at hk2, fun k2 hk2 => by simp at hk2, hsame 1⟩
    by_cases hne : k2 = k
    · subst hne
      rw [htc] at h2; simp only [Option.some.injEq] at h2; subst h2
      unfold ChunkOk
      split
      · rename_i h0; rwa [if_pos h0] at hdg
      · rename_i h0
        rw [if_neg h0] at hdg
        have hfull := Reader.fileRead_full_iff.mp (congrArg List.length l3)
        exact ⟨by show _ ≤ st.file.length; omega, by rw [show tc.compLen = acc.length by omega, l3]; exact hdg⟩
    · exact hv.ok k2 tc2 h2 ha2 (by rwa [getD_set_of_ne hne] at hv2)
  · -- failed: the extent is zero-filled, the chunk marked −1
    refine ⟨fun k2 tc2 h2 ha2 hv2 => ?_, fun k2 _ acc _ _ hacc => by simp at hacc, fun k2 hk2 => ?_, hsame (-1)⟩
    · have hne : k2 ≠ k := fun heq => getD_set_self_ne_one _ _ _ (by decide) (hv.notv k hk) (heq ▸ hv2)
      rw [getD_set_of_ne hne] at hv2
      exact chunkOk_writeAt e hd st.file k2 k tc2 tc h2 htc hne _ _ (Nat.le_refl _) (by simp [length_zeros]) (hv.ok k2 tc2 h2 ha2 hv2)
    · rw [hk] at hk2; simp only [Option.some.injEq] at hk2; subst hk2
      exact getD_set_self_ne_one _ _ _ (by decide) (hv.notv _ hk)

theorem gv_dlVerify (e : Env) (hd : Disj e) (f0 : Bytes) (v0 : List Int) (st : St)
    (h : GV e f0 v0 st) (hw : st.writeInChunk = 0) :
    GV e f0 v0 (dlVerify e st).2 ∧ (dlVerify e st).2.writeInChunk = 0 := by
  cases hk : st.tgtCheck with
  | none => rw [dlVerify_none e st hk]; exact ⟨h, hw⟩
  | some k => rw [dlVerify_some e st k hk]; exact gv_setChunkValid e hd f0 v0 st k h hk hw

theorem gv_dlOpen (e : Env) (f0 : Bytes) (v0 : List Int) (st : St) (h : GV e f0 v0 st) :
    GV e f0 v0 (dlOpen e st) := by
  refine ⟨good_dlOpen e f0 v0 st h.1, ?_⟩
  obtain ⟨hg, hv⟩ := h
  rcases dlOpen_spec e st with heq | ⟨j, rc, tc, hmem, hel, htc, heq⟩ <;> rw [heq]
  · exact ⟨hv.ok, hv.link, hv.notv, hv.same⟩
  · obtain ⟨tc', htc', hsz⟩ := hel.2.2
    rw [htc] at htc'; simp only [Option.some.injEq] at htc'; subst htc'
    refine ⟨hv.ok, fun k2 tc2 acc hk2 h2 hacc => ?_, fun k2 hk2 => ?_, hv.same⟩
    · simp only [Option.some.injEq] at hk2 hacc
      subst hk2; subst hacc
      rw [htc] at h2; simp only [Option.some.injEq] at h2; subst h2
      exact ⟨by simp only [List.length_nil]; omega, rfl, rfl⟩
    · simp only [Option.some.injEq] at hk2
      exact hk2 ▸ hel.2.1

theorem gv_preserved (e : Env) (hd : Disj e) (f0 : Bytes) (v0 : List Int) : Preserved e (GV e f0 v0) where
  frame := fun st st' h h1 h2 h3 h4 h5 h6 =>
    ⟨h.1.congr h1 h2 h3 h5 h6,
     ⟨by rw [h1, h3]; exact h.2.ok, by rw [h1, h2, h4, h5, h6]; exact h.2.link, by rw [h3, h6]; exact h.2.notv,
      by rw [h3]; exact h.2.same⟩⟩
  write := fun st at_ h => gv_dlWrite e hd f0 v0 st at_ h
  verify := fun st h hw => gv_dlVerify e hd f0 v0 st h hw
  opens := fun st h _ => gv_dlOpen e f0 v0 st h

theorem gv_init (e : Env) (st : St) (h1 : st.tgtCheck = none) (h2 : st.writeInChunk = 0) :
    GV e st.file st.valid st :=
  ⟨good_init e st h1 h2,
   ⟨fun _ _ _ ha hv => absurd hv ha.1, fun k _ _ hk => by rw [h1] at hk; simp at hk,
    fun k hk => by rw [h1] at hk; simp at hk, fun _ _ => rfl⟩⟩

/-- C05 / C17 (verification): for arbitrary header lines, body bytes, fragmentation, regex answers and hash function, a chunk that
was not valid before and is marked valid afterwards holds, at its extent in the target file, bytes that hash to its index
checksum; nothing is assumed about the response -/
theorem verified (e : Env) (hd : Disj e) (st : St) (lines frags : List Bytes) (stop clear : Bool)
    (h1 : st.tgtCheck = none) (h2 : st.writeInChunk = 0) :
    let fin := (feed e stop clear (feedHdrs e st lines []).2 frags []).2
    ∀ k tc, e.hdr.chunks[k]? = some tc → st.valid.getD k 0 ≠ 1 → fin.valid.getD k 0 = 1 → ChunkOk e fin.file tc := by
  have hg := pres_session e (gv_preserved e hd st.file st.valid) stop clear lines frags st (gv_init e st h1 h2)
  intro fin k tc htc hnv hv
  by_cases ha : Allowed e st.valid k
  · exact hg.2.ok k tc htc ha hv
  · exact absurd ((hg.2.same k ha).symm.trans hv) hnv

/-- marks change only on requested chunks that were not valid -/
theorem marks_confined (e : Env) (hd : Disj e) (st : St) (lines frags : List Bytes) (stop clear : Bool)
    (h1 : st.tgtCheck = none) (h2 : st.writeInChunk = 0) (k : Nat) (hk : ¬ Allowed e st.valid k) :
    (feed e stop clear (feedHdrs e st lines []).2 frags []).2.valid.getD k 0 = st.valid.getD k 0 :=
  (pres_session e (gv_preserved e hd st.file st.valid) stop clear lines frags st (gv_init e st h1 h2)).2.same k hk

/-- the verification of a completed chunk succeeds exactly when the bytes hashed while writing have the index checksum -/
theorem setChunkValid_iff (e : Env) (st : St) (k : Nat) (tc : Chunk) (acc : Bytes)
    (htc : e.hdr.chunks[k]? = some tc) (hh : st.hash = some acc) :
    (setChunkValid e st k).1 = true ↔
      (if tc.compLen = 0 then (hsize e.hdr.chunkHashType).map zeros else e.H e.hdr.chunkHashType acc) = some tc.digest := by
  rcases setChunkValid_spec e st k tc htc with ⟨acc', hh', hdg, heq⟩ | ⟨hne, heq⟩ <;> rw [heq]
  · rw [hh] at hh'; simp only [Option.some.injEq] at hh'; subst hh'
    exact ⟨fun _ => hdg, fun _ => rfl⟩
  · exact ⟨fun h => absurd h (by simp), fun h => absurd h (hne acc hh)⟩

/-- when the verification fails the chunk's extent is zero-filled and the chunk is marked failed -/
theorem mismatch_zeroed (e : Env) (st : St) (k : Nat) (tc : Chunk)
    (htc : e.hdr.chunks[k]? = some tc) (hk : k < st.valid.length) (hf : (setChunkValid e st k).1 = false) :
    (setChunkValid e st k).2.valid.getD k 0 = -1 ∧
    (((setChunkValid e st k).2.file.drop (e.dataOff + tc.start)).take tc.compLen = zeros tc.compLen) := by
  rcases setChunkValid_spec e st k tc htc with ⟨_, _, _, heq⟩ | ⟨_, heq⟩ <;> rw [heq] at hf ⊢
  · exact absurd hf (by simp)
  · have hrb := fileRead_writeAt_self st.file (e.dataOff + tc.start) (zeros tc.compLen)
    rw [length_zeros] at hrb
    exact ⟨by simp [List.getD, hk], hrb⟩

theorem dlSelect_fail (e : Env) (st : St) (h : (dlVerify e st).1 = false) : (dlSelect e st).1 = false := by
  unfold dlSelect; simp [h]

theorem dlWriteRange_refuses (e : Env) (fuel : Nat) (st st1 : St) (at_ : Bytes) (wb : Nat)
    (he : st.err = false) (hr : e.ridx.isEmpty = false)
    (hw : dlWrite st at_ = (some wb, st1)) (h0 : st1.writeInChunk = 0) (hv : (dlVerify e st1).1 = false) :
    (dlWriteRange e (fuel + 1) st at_).1 = 0 := by
  unfold dlWriteRange
  simp [he, hr, hw, h0, dlSelect_fail e st1 hv]

/-- the write callback reports an error (returns 0) when `dl_write_range` does -/
theorem cb_refuses_single (e : Env) (st : St) (b : Bytes) (hb : st.boundary = none)
    (h : (dlWriteRange e (2 * b.length + 2) { st with dlBytes := st.dlBytes + b.length } b).1 = 0) :
    (writeChunkCb e st b).1 = 0 := by
  unfold writeChunkCb
  simp only
  split
  · rename_i hx; simp [hb] at hx
  · simp [h]

theorem disj_of_runFrom (e : Env) (h : C13.RunFrom 0 0 e.hdr.chunks) : Disj e := by
  intro k k' tc tc' hk hk' hne
  rcases Nat.lt_or_gt_of_ne hne with hlt | hgt
  · exact .inl (C13.run_disj h k k' tc tc' hk hk' hlt)
  · exact .inr (C13.run_disj h k' k tc' tc hk' hk hgt)

end Zck.C05

namespace Zck.C17
open Zck.Format Zck.Dl

/-! A concrete session for the non-vacuity examples of C05 and C17: three chunks of which the first is valid, the other two
requested. -/

def toyH : HashFn := fun _ bs => some [bs.foldl (· + ·) 0]
def toyRx : Rx := { comp := fun _ => true, hdr := fun _ => none, part := fun _ _ => none, endm := fun _ _ => false }
def toyHdr : Hdr :=
  { detached := false, hashType := 1, chunkHashType := 3, flags := 0, compType := 0, lead := 4, headerLen := 2,
    headerDigest := [], dataDigest := [], count := 3,
    chunks := [⟨0, [0], none, 0, 0, 0⟩, ⟨1, [6], none, 3, 3, 0⟩, ⟨2, [9], none, 2, 2, 3⟩], dataLen := 5 }
def toyEnv : Env := { H := toyH, rx := toyRx, hdr := toyHdr, ridx := mkRidx [(1, 3), (2, 2)] 0 }
def toySt : St := { file := [9, 9, 9, 9, 9, 9, 7, 7, 7, 7, 7], pos := 6, valid := [1, 0, 0] }

end Zck.C17
