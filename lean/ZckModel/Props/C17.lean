/-
C17 — Memory safety and clean failure on arbitrary server responses (theorems about `Dl.lean`).
The model marks as `ub` every step whose C counterpart would be undefined behaviour that the model can express: use of an
allocated-but-uncompiled pattern (`regexec`/`regfree` on it), match offsets outside the subject string, a chunk pointer
outside the index, and running out of the fuel that stands for the C loops' termination.  `safe` below says that no
callback ever reaches such a step, for arbitrary header lines, bodies and fragmentations.  Confinement and verification
for arbitrary input are `C05.confined` and `C05.verified` (restated at the end); `C05.disj_of_open` stands here because this is
the first file of the download theorems that has the header reader's (`Props/C13.lean`).
-/
import ZckModel.Props.C05
import ZckModel.Props.C13

namespace Zck.C05
open Zck.Format Zck.Dl

/-- every header the library's parser accepts has non-overlapping chunk extents, so `verified` applies to it -/
theorem disj_of_open (H : HashFn) (f : Bytes) (e : Env) (hok : Header.openFile H f = .ok e.hdr)
    (hsmall : e.hdr.lead + e.hdr.headerLen ≤ 2^63 - 1) : Disj e :=
  disj_of_runFrom e (C13.open_sound H f e.hdr hok hsmall).2.2.1

end Zck.C05

namespace Zck.C17
open Zck.Dl Zck.C05

/-- what `regexec` promises: group offsets lie inside the subject string, in order -/
structure RxSane (rx : Rx) : Prop where
  hdr  : ∀ s so eo, rx.hdr s = some (so, eo) → so ≤ eo ∧ eo ≤ s.length
  part : ∀ pp s a b c d, rx.part pp s = some (a, b, c, d) → a ≤ b ∧ b ≤ s.length ∧ c ≤ d ∧ d ≤ s.length

/-- the three patterns are NULL or compiled, never allocated-but-uncompiled; the part pattern never without the closing one -/
structure RxOk (st : St) : Prop where
  noUb : st.ub = false
  hdr  : st.hdrRx ≠ .broken
  pair : st.dlRx = .null ∨ ((∃ p, st.dlRx = .ok p) ∧ (∃ q, st.endRx = .ok q))

theorem RxOk.congr {st st' : St} (h : RxOk st) (h1 : st'.ub = st.ub) (h2 : st'.hdrRx = st.hdrRx)
    (h3 : st'.dlRx = st.dlRx) (h4 : st'.endRx = st.endRx) : RxOk st' :=
  ⟨by rw [h1]; exact h.noUb, by rw [h2]; exact h.hdr, by rw [h3, h4]; exact h.pair⟩

/-- the fields `RxOk` reads -/
def rxs (st : St) : Bool × RxSt × RxSt × RxSt := (st.ub, st.hdrRx, st.dlRx, st.endRx)

theorem RxOk.of_rxs {st st' : St} (h : RxOk st) (hr : rxs st' = rxs st) : RxOk st' := by
  simp only [rxs, Prod.mk.injEq] at hr
  exact h.congr hr.1 hr.2.1 hr.2.2.1 hr.2.2.2

-- given `Good` the chunk under verification is in the index, so no primitive step sets `ub`
theorem rxs_dlWrite (st : St) (at_ : Bytes) : rxs (dlWrite st at_).2 = rxs st :=
  dlWrite_cases st at_ (fun _ => rfl) (fun _ _ _ _ => rfl) (fun _ _ _ _ _ _ => rfl)

theorem rxs_dlVerify (e : Env) (f0 : Bytes) (v0 : List Int) (st : St) (hg : Good e f0 v0 st) :
    rxs (dlVerify e st).2 = rxs st := by
  cases hk : st.tgtCheck with
  | none => rw [dlVerify_none e st hk]
  | some k =>
    obtain ⟨tc, htc⟩ := (hg.chk k hk).2
    rw [dlVerify_some e st k hk]
    rcases setChunkValid_spec e st k tc htc with ⟨_, _, _, heq⟩ | ⟨_, heq⟩ <;> rw [heq] <;> rfl

theorem rxs_dlOpen (e : Env) (st : St) : rxs (dlOpen e st) = rxs st := by
  rcases dlOpen_spec e st with h | ⟨_, _, _, _, _, _, h⟩ <;> rw [h] <;> rfl

theorem rxs_dlSelect (e : Env) (f0 : Bytes) (v0 : List Int) (st : St) (hg : Good e f0 v0 st) :
    rxs (dlSelect e st).2 = rxs st := by
  unfold dlSelect
  simp only
  split
  · exact rxs_dlVerify e f0 v0 st hg
  · rw [rxs_dlOpen]; exact rxs_dlVerify e f0 v0 st hg

/-- C17: `dl_write_range` with fuel for its argument does not run out of it, uses no pattern and reads no chunk outside the index -/
theorem rxs_dlWriteRange (e : Env) (f0 : Bytes) (v0 : List Int) : ∀ (fuel : Nat) (st : St) (at_ : Bytes),
    Good e f0 v0 st → 2 * at_.length + (if st.writeInChunk = 0 then 1 else 0) + 1 ≤ fuel →
    rxs (dlWriteRange e fuel st at_).2 = rxs st := fun fuel st at_ hg hf =>
  (dwr_lift e (P := fun s => Good e f0 v0 s ∧ rxs s = rxs st) (fun _ h => ⟨h.1.congr rfl rfl rfl rfl rfl, h.2⟩)
    (fun s x h => ⟨good_dlWrite e f0 v0 s x h.1, (rxs_dlWrite s x).trans h.2⟩)
    (fun s h hw => ⟨pres_dlSelect e (good_preserved e f0 v0) s h.1 hw, (rxs_dlSelect e f0 v0 s h.1).trans h.2⟩)
    fuel st at_ (.inl hf) ⟨hg, rfl⟩).2

/-- C17: the C string handed to `regexec` ends inside the buffer: after `j[3] = 0` there is a NUL at or before `j + 3` -/
theorem cstr_in_bounds (buf : Bytes) (i j : Nat) (hij : i ≤ j) (hj : j + 4 < buf.length) :
    (cstr ((buf.set (j + 3) 0).drop i)).length ≤ j + 3 - i :=
  length_cstr_le _ _ (by
    rw [List.getElem?_drop, Nat.add_sub_of_le (Nat.le_trans hij (Nat.le_add_right j 3)),
      List.getElem?_set_self (Nat.lt_of_succ_lt hj)])

/-- the second alternative of `RxOk.pair`: both part patterns are compiled -/
def RxReady (st : St) : Prop := (∃ p, st.dlRx = .ok p) ∧ (∃ q, st.endRx = .ok q)

theorem RxReady.of_rxs {st st' : St} (h : RxReady st) (hr : rxs st' = rxs st) : RxReady st' := by
  simp only [rxs, Prod.mk.injEq] at hr
  unfold RxReady; rw [hr.2.2.1, hr.2.2.2]; exact h

theorem rxs_mpPartHeader (e : Env) (hs : RxSane e.rx) (s : Bytes) (st : St) (hr : RxReady st) :
    rxs (mpPartHeader e s st).2 = rxs st := by
  obtain ⟨⟨p, hp⟩, ⟨q, hq⟩⟩ := hr
  unfold mpPartHeader
  rw [hp, hq]
  simp only
  cases hm : e.rx.part p s with
  | none => simp only; split <;> simp [rxs, hp, hq]
  | some m =>
    obtain ⟨a, b, c, d⟩ := m
    have := hs.part p s a b c d hm
    simp only
    rw [if_neg (by simp only [Classical.not_not]; exact this)]
    simp [rxs, hp, hq]

theorem rxs_mpPayload (e : Env) (f0 : Bytes) (v0 : List Int) (buf : Bytes) (i hs : Nat) (st : St)
    (hg : Good e f0 v0 st) : rxs (mpPayload e buf i hs st).2.2.2 = rxs st :=
  rxs_dlWriteRange e f0 v0 _ _ _ (hg.congr rfl rfl rfl rfl rfl)
    (Nat.le_trans (dneed_le _ _) (Nat.add_le_add_right (Nat.mul_le_mul_left 2 (List.length_take_le _ _)) 2))

/-- C17: the loop of `multipart_extract` ends within its fuel, leaves the patterns alone and reaches no `ub` step -/
theorem rxs_mpLoop (e : Env) (hsane : RxSane e.rx) (f0 : Bytes) (v0 : List Int) :
    ∀ (fuel : Nat) (buf : Bytes) (i hs : Nat) (st : St), Good e f0 v0 st → RxReady st →
      need buf.length i st.mp.state ≤ fuel → rxs (mpLoop e fuel buf i hs st).2 = rxs st := fun fuel buf i hs st hg hr hf =>
  (mpLoop_lift e (P := fun s => Good e f0 v0 s ∧ rxs s = rxs st)
    (fun buf i hs s h => ⟨pres_mpPayload e (good_preserved e f0 v0) buf i hs s h.1, (rxs_mpPayload e f0 v0 buf i hs s h.1).trans h.2⟩)
    (fun x s h => ⟨pres_mpPartHeader e (good_preserved e f0 v0) x s h.1,
      (rxs_mpPartHeader e hsane x s (hr.of_rxs h.2)).trans h.2⟩)
    (fun _ _ h => ⟨h.1.congr rfl rfl rfl rfl rfl, h.2⟩) fuel buf i hs st (.inl hf) ⟨hg, rfl⟩).2

def Safe (e : Env) (f0 : Bytes) (v0 : List Int) (st : St) : Prop := Good e f0 v0 st ∧ RxOk st

theorem rxOk_genRegex (e : Env) (st : St) (h : RxOk st) :
    RxOk (genRegex e st).2 ∧ ((genRegex e st).1 = true → RxReady (genRegex e st).2) := by
  unfold genRegex
  simp only
  split
  · exact ⟨⟨h.noUb, h.hdr, Or.inl rfl⟩, fun hh => by simp at hh⟩
  · split
    · exact ⟨⟨h.noUb, h.hdr, Or.inl rfl⟩, fun hh => by simp at hh⟩
    · exact ⟨⟨h.noUb, h.hdr, Or.inr ⟨⟨_, rfl⟩, ⟨_, rfl⟩⟩⟩, fun _ => ⟨⟨_, rfl⟩, ⟨_, rfl⟩⟩⟩

theorem rxOk_mpEnsureRx (e : Env) (st : St) (h : RxOk st) :
    RxOk (mpEnsureRx e st).2 ∧ ((mpEnsureRx e st).1 = true → RxReady (mpEnsureRx e st).2) := by
  unfold mpEnsureRx
  split
  · exact rxOk_genRegex e st h
  · rename_i hn
    refine ⟨h, fun _ => ?_⟩
    rcases h.pair with h0 | h1
    · exact absurd h0 hn
    · exact h1

theorem safe_mpExtract (e : Env) (hsane : RxSane e.rx) (f0 : Bytes) (v0 : List Int) (st : St) (b : Bytes)
    (h : Safe e f0 v0 st) : Safe e f0 v0 (mpExtract e st b).2 := by
  refine ⟨pres_mpExtract e (good_preserved e f0 v0) st b h.1, ?_⟩
  obtain ⟨hg, hr⟩ := h
  unfold mpExtract
  split
  · exact hr
  · simp only
    have hj : rxs (mpJoin st b).2 = rxs st := by unfold mpJoin; split <;> rfl
    have he := rxOk_mpEnsureRx e (mpJoin st b).2 (hr.of_rxs hj)
    have hge : Good e f0 v0 (mpEnsureRx e (mpJoin st b).2).2 :=
      (good_preserved e f0 v0).of_core hg ((mpEnsureRx_core e _).trans (mpJoin_core st b))
    split
    · exact he.1
    · rename_i hok
      have hready := he.2 (by simpa using hok)
      have := rxs_mpLoop e hsane f0 v0 (2 * (mpJoin st b).1.length + 4) (mpJoin st b).1 0 0 _ hge hready
        (Nat.le_trans (need_le _ _ _) (by omega))
      exact he.1.of_rxs this

theorem safe_getBoundary (e : Env) (hsane : RxSane e.rx) (hc : e.rx.comp hdrPattern = true) (f0 : Bytes) (v0 : List Int)
    (st : St) (b : Bytes) (h : Safe e f0 v0 st) : Safe e f0 v0 (getBoundary e st b) := by
  refine ⟨pres_getBoundary e (good_preserved e f0 v0) st b h.1, ?_⟩
  obtain ⟨hg, hr⟩ := h
  unfold getBoundary
  by_cases he : st.err = true
  · rw [if_pos he]; exact hr
  · rw [if_neg he]
    have hens : ∃ st1, hdrEnsureRx e st = some st1 ∧ RxOk st1 := by
      unfold hdrEnsureRx
      split
      · rw [if_pos hc]
        exact ⟨_, rfl, ⟨hr.noUb, by simp, hr.pair⟩⟩
      · exact ⟨st, rfl, hr⟩
    obtain ⟨st1, h1, hr1⟩ := hens
    rw [h1]
    simp only
    rw [if_neg hr1.hdr]
    cases hm : e.rx.hdr (cstr b) with
    | none => exact hr1
    | some p =>
      obtain ⟨so, eo⟩ := p
      have := hsane.hdr (cstr b) so eo hm
      simp only
      rw [if_neg (by simp only [Classical.not_not]; exact this)]
      exact hr1.congr rfl rfl rfl rfl

theorem safe_writeChunkCb (e : Env) (hsane : RxSane e.rx) (f0 : Bytes) (v0 : List Int) (st : St) (b : Bytes)
    (h : Safe e f0 v0 st) : Safe e f0 v0 (writeChunkCb e st b).2 :=
  writeChunkCb_lift e (fun _ _ h => ⟨h.1.congr rfl rfl rfl rfl rfl, h.2.congr rfl rfl rfl rfl⟩)
    (safe_mpExtract e hsane f0 v0)
    (fun s b h => ⟨pres_dlWriteRange e (good_preserved e f0 v0) _ s b h.1,
      h.2.of_rxs (rxs_dlWriteRange e f0 v0 _ s b h.1 (dneed_le s b))⟩) st b h

/-- C17 (safety): for any header lines, body bytes and fragmentation (also empty fragments), transport stopping at a refusal or not,
errors cleared or not, any outcome of `regcomp` on the patterns built from the server's boundary and any answers of a `regexec`
that keeps its contract: no callback uses an uncompiled pattern, reads a match outside its string, follows a chunk pointer out of
the index, or fails to end within the fuel computed from the size of its input.  Hypothesis: the constant header pattern compiles
(otherwise glibc is out of memory). -/
theorem safe (e : Env) (hsane : RxSane e.rx) (hc : e.rx.comp hdrPattern = true) (st : St) (lines frags : List Bytes)
    (stop clear : Bool) (h1 : st.tgtCheck = none) (h2 : st.writeInChunk = 0) (h3 : RxOk st) :
    (feed e stop clear (feedHdrs e st lines []).2 frags []).2.ub = false :=
  (feed_lift e (safe_writeChunkCb e hsane st.file st.valid)
    (fun _ h => ⟨h.1.congr rfl rfl rfl rfl rfl, h.2.congr rfl rfl rfl rfl⟩) stop clear frags _ []
    (feedHdrs_lift e (safe_getBoundary e hsane hc st.file st.valid) lines st [] ⟨good_init e st h1 h2, h3⟩)).2.noUb

/-- C17 (confinement) = `C05.confined` -/
theorem confined_any (e : Env) (st : St) (lines frags : List Bytes) (stop clear : Bool)
    (h1 : st.tgtCheck = none) (h2 : st.writeInChunk = 0) :
    let fin := (feed e stop clear (feedHdrs e st lines []).2 frags []).2
    (∀ i, Outside e st.valid i → fin.file.getD i 0 = st.file.getD i 0) ∧
    (∀ k, st.valid.getD k 0 = 1 → fin.valid.getD k 0 = 1) :=
  C05.confined e st lines frags stop clear h1 h2

/-- C17 (verification) = `C05.verified` -/
theorem verified_any (e : Env) (hd : Disj e) (st : St) (lines frags : List Bytes) (stop clear : Bool)
    (h1 : st.tgtCheck = none) (h2 : st.writeInChunk = 0) :
    let fin := (feed e stop clear (feedHdrs e st lines []).2 frags []).2
    ∀ k tc, e.hdr.chunks[k]? = some tc → st.valid.getD k 0 ≠ 1 → fin.valid.getD k 0 = 1 → ChunkOk e fin.file tc :=
  C05.verified e hd st lines frags stop clear h1 h2

/-- the hypotheses of `confined`, `verified` and `C17.safe` hold of a concrete session (`toySt`, `toyEnv`: end of `C05.lean`) -/
example : toySt.tgtCheck = none ∧ toySt.writeInChunk = 0 ∧ Disj toyEnv ∧ RxOk toySt ∧ RxSane toyEnv.rx ∧
    toyEnv.rx.comp hdrPattern = true := by
  refine ⟨rfl, rfl, disj_of_runFrom toyEnv (by simp [toyEnv, toyHdr, C13.RunFrom]), ⟨rfl, by simp [toySt], Or.inl rfl⟩,
    ⟨fun _ _ _ h => by simp [toyEnv, toyRx] at h, fun _ _ _ _ _ _ h => by simp [toyEnv, toyRx] at h⟩, rfl⟩

/-- a single-range response cut in two, the cut inside the first chunk: both chunks land at their offsets and are valid -/
example : (feed toyEnv true false toySt [[1, 2], [3, 4, 5]] []).2.file = [9, 9, 9, 9, 9, 9, 1, 2, 3, 4, 5] ∧
    (feed toyEnv true false toySt [[1, 2], [3, 4, 5]] []).2.valid = [1, 1, 1] ∧
    (feed toyEnv true false toySt [[1, 2], [3, 4, 5]] []).1 = [2, 3] := by decide +kernel

/-- a damaged byte in the first chunk: zero-filled, marked failed, the callback returns 0, the second chunk untouched -/
example : (feed toyEnv true false toySt [[1, 2], [4, 4, 5]] []).2.file = [9, 9, 9, 9, 9, 9, 0, 0, 0, 7, 7] ∧
    (feed toyEnv true false toySt [[1, 2], [4, 4, 5]] []).2.valid = [1, -1, 0] ∧
    (feed toyEnv true false toySt [[1, 2], [4, 4, 5]] []).1 = [2, 0] := by decide +kernel

end Zck.C17
