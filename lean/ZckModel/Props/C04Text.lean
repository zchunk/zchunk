/-
C04 — what the model's server sends, as text, and who can read it.  The body goes out in non-empty pieces that concatenate to it
(`pieces_spec`).  Two facts the multipart parser needs of the text follow from its shape: decimal digits and the boundary hold no
CR, so the first CRLFCRLF of a part header is its end (`partHdr_noEarly`) and the closing delimiter holds no part header
(`closing_noHeader`).  What glibc's regex functions do on these lines is a parameter of the model: `Honest` says what is needed of
it, and one oracle (`refRx`: go to the last space, split at `-` and `/`) meets it for every request (`refRx_honest`).
-/
import ZckModel.Update
import ZckModel.Props.C05Multipart
namespace Zck.C04
open Zck.Dl Zck.C05 Zck.Update

theorem pieces_go_spec (n : Nat) (hn : 0 < n) : ∀ (fuel : Nat) (b : Bytes) (acc : List Bytes), b.length < fuel →
    (∀ f ∈ acc, f ≠ []) →
    (pieces.go n fuel b acc).flatten = acc.reverse.flatten ++ b ∧ ∀ f ∈ pieces.go n fuel b acc, f ≠ []
  | 0, b, acc, h, _ => by omega
  | fuel + 1, b, acc, h, hacc => by
    unfold pieces.go
    by_cases hb : b.isEmpty = true
    · simp only [hb, ↓reduceIte]
      have : b = [] := List.isEmpty_iff.mp hb
      subst this
      exact ⟨by simp, fun f hf => hacc f (by simpa using hf)⟩
    · simp only [hb, Bool.false_eq_true, ↓reduceIte]
      have hbne : b ≠ [] := fun h => hb (by simp [h])
      have hbl : 0 < b.length := List.length_pos_iff.mpr hbne
      have htk : b.take n ≠ [] := by
        intro h
        have := congrArg List.length h
        simp only [List.length_take, List.length_nil] at this
        omega
      have ih := pieces_go_spec n hn fuel (b.drop n) (b.take n :: acc) (by simp only [List.length_drop]; omega)
        (fun f hf => by rcases List.mem_cons.mp hf with rfl | h'; exact htk; exact hacc f h')
      refine ⟨?_, ih.2⟩
      rw [ih.1]
      simp [List.append_assoc]

theorem pieces_spec (n : Nat) (b : Bytes) : (pieces n b).flatten = b ∧ ∀ f ∈ pieces n b, f ≠ [] := by
  unfold pieces
  by_cases hn : n = 0
  · simp only [hn, ↓reduceIte]
    by_cases hb : b.isEmpty = true
    · have : b = [] := List.isEmpty_iff.mp hb
      simp [this]
    · simp only [hb, Bool.false_eq_true, ↓reduceIte]
      have hbne : b ≠ [] := fun h => hb (by simp [h])
      simp [hbne]
  · simp only [hn, ↓reduceIte]
    exact pieces_go_spec n (by omega) (b.length + 1) b [] (by omega) (by simp)

theorem digit_byte (c : Char) (h : c.isDigit = true) : 48 ≤ c.toNat ∧ c.toNat ≤ 57 ∧ c.toNat.toUInt8.toNat = c.toNat := by
  simp only [Char.isDigit, Bool.and_eq_true, decide_eq_true_eq, ge_iff_le, UInt32.le_iff_toNat_le] at h
  have h48 : 48 ≤ c.toNat := h.1
  have h57 : c.toNat ≤ 57 := h.2
  refine ⟨h48, h57, ?_⟩
  simp only [Nat.toUInt8, UInt8.toNat_ofNat']
  omega

theorem dec_digits (n : Nat) : ∀ b ∈ dec n, 48 ≤ b.toNat ∧ b.toNat ≤ 57 := by
  intro b hb
  obtain ⟨c, hc, rfl⟩ := List.mem_map.mp hb
  obtain ⟨h1, h2, h3⟩ := digit_byte c (Nat.isDigit_of_mem_toDigits (by decide) (by decide) hc)
  rw [h3]
  exact ⟨h1, h2⟩

theorem dec_ne (n : Nat) (x : UInt8) (hx : x.toNat < 48 ∨ 57 < x.toNat) : ∀ b ∈ dec n, b ≠ x := by
  intro b hb heq
  have := dec_digits n b hb
  rw [heq] at this
  omega

theorem dec_no13 (n : Nat) : ∀ b ∈ dec n, b ≠ 13 := dec_ne n 13 (by decide)

/-- in `CR LF X T` with no CR in the non-empty `X`, two CRs two apart can only lie in `T` -/
theorem cr_shift (X T : Bytes) (hX : ∀ b ∈ X, b ≠ 13) (hne : X ≠ []) (i : Nat)
    (h1 : (13 :: 10 :: (X ++ T))[i]? = some 13) (h2 : (13 :: 10 :: (X ++ T))[i + 2]? = some 13) :
    2 + X.length ≤ i ∧ T[i - (2 + X.length)]? = some 13 ∧ T[i - (2 + X.length) + 2]? = some 13 := by
  match i with
  | 0 =>
    exfalso
    simp only [List.getElem?_cons_succ] at h2
    obtain ⟨x, xs, rfl⟩ := List.exists_cons_of_ne_nil hne
    simp only [List.cons_append, List.getElem?_cons_zero, Option.some.injEq] at h2
    exact hX x (by simp) h2
  | 1 => simp at h1
  | k + 2 =>
    simp only [List.getElem?_cons_succ] at h1 h2
    by_cases hk : k < X.length
    · exfalso
      rw [List.getElem?_append_left hk] at h1
      exact hX 13 (List.mem_of_getElem? h1) rfl
    · have hk' : X.length ≤ k := by omega
      rw [List.getElem?_append_right hk'] at h1
      rw [List.getElem?_append_right (by omega)] at h2
      refine ⟨by omega, ?_, ?_⟩
      · have : k + 2 - (2 + X.length) = k - X.length := by omega
        rw [this]; exact h1
      · have : k + 2 - (2 + X.length) + 2 = k + 2 - X.length := by omega
        rw [this]; exact h2

theorem window_crs (L : Bytes) (j : Nat) (h : (L.drop j).take 4 = C05.crlf2) : L[j]? = some 13 ∧ L[j + 2]? = some 13 := by
  have h0 : ((L.drop j).take 4)[0]? = some 13 := by rw [h]; rfl
  have h2 : ((L.drop j).take 4)[2]? = some 13 := by rw [h]; rfl
  simp only [List.getElem?_take, List.getElem?_drop] at h0 h2
  exact ⟨h0, by simpa using h2⟩

theorem no13_append {a b : Bytes} (ha : ∀ x ∈ a, x ≠ 13) (hb : ∀ x ∈ b, x ≠ 13) : ∀ x ∈ a ++ b, x ≠ 13 :=
  List.forall_mem_append.mpr ⟨ha, hb⟩

theorem boundary_no13 (n : Nat) : ∀ b ∈ boundary n, b ≠ 13 :=
  no13_append (by decide +kernel) (dec_no13 n)

theorem noEarly_lines (X1 X2 X3 : Bytes) (n1 : ∀ b ∈ X1, b ≠ 13) (n2 : ∀ b ∈ X2, b ≠ 13) (n3 : ∀ b ∈ X3, b ≠ 13)
    (e1 : X1 ≠ []) (e2 : X2 ≠ []) (e3 : X3 ≠ []) : NoEarly (13 :: 10 :: (X1 ++ (13 :: 10 :: (X2 ++ (13 :: 10 :: X3))))) := by
  intro j hj hw
  obtain ⟨c1, c2⟩ := window_crs _ j hw
  have hshape : 13 :: 10 :: (X1 ++ (13 :: 10 :: (X2 ++ (13 :: 10 :: X3)))) ++ C05.crlf2 =
      13 :: 10 :: (X1 ++ (13 :: 10 :: (X2 ++ (13 :: 10 :: (X3 ++ C05.crlf2))))) := by
    simp only [List.cons_append, List.append_assoc]
  rw [hshape] at c1 c2
  obtain ⟨a1, a2, a3⟩ := cr_shift X1 _ n1 e1 j c1 c2
  obtain ⟨b1, b2, b3⟩ := cr_shift X2 _ n2 e2 _ a2 a3
  obtain ⟨d1, d2, d3⟩ := cr_shift X3 _ n3 e3 _ b2 b3
  simp only [List.length_cons, List.length_append] at hj
  omega

/-- no CRLFCRLF inside a part header of the model's server -/
theorem partHdr_noEarly (n total : Nat) (r : Nat × Nat) : NoEarly (partHdr n total r) := by
  have hshape : partHdr n total r = 13 :: 10 :: (([45, 45] ++ boundary n) ++ (13 :: 10 :: (bCT ++ (13 :: 10 ::
      (bCR ++ dec r.1 ++ [45] ++ dec r.2 ++ [47] ++ dec total))))) := by
    simp only [partHdr, bDelim, List.append_assoc, List.cons_append, List.nil_append]
  rw [hshape]
  exact noEarly_lines _ _ _ (no13_append (by decide +kernel) (boundary_no13 n)) (by decide +kernel)
    (no13_append (no13_append (no13_append (no13_append (no13_append (by decide +kernel) (dec_no13 _)) (by decide +kernel)) (dec_no13 _)) (by decide +kernel)) (dec_no13 _))
    (by simp) (by decide +kernel) (by simp)

/-- no part header in the closing delimiter of the model's server -/
theorem closing_noHeader (n : Nat) : NoHeader (closing n) := by
  intro j r hr
  obtain ⟨hat, hjr⟩ := scanFrom_inr_at (closing n) j r hr
  obtain ⟨c1, c2⟩ := window_crs _ _ hat
  let X : Bytes := [45, 45] ++ boundary n ++ [45, 45]
  have hshape : closing n = 13 :: 10 :: (X ++ [13, 10]) := by
    simp [closing, bDelim, X, List.append_assoc]
  have nX : ∀ b ∈ X, b ≠ 13 := no13_append (no13_append (by decide) (boundary_no13 n)) (by decide)
  rw [hshape] at c1 c2
  obtain ⟨a1, a2, a3⟩ := cr_shift X _ nX (by simp [X]) _ c1 c2
  generalize r - j - (2 + X.length) = i at a2 a3
  match i with
  | 0 => simp at a3
  | 1 => simp at a2
  | k + 2 => simp at a2

/-- `regcomp`/`regexec` read the reference server's responses as intended: no boundary in the lines of a single-range
response; in a multipart response the boundary of the Content-Type line is found (and nothing in the other lines), the two
patterns built from it compile, and in every part header the part pattern finds the two numbers of the range.  These are facts
about glibc's regex functions, which the model takes as a parameter.  (That a part header's first CRLFCRLF is its end and that
the closing delimiter holds no part header are facts about the text, proved: `partHdr_noEarly`, `closing_noHeader`.) -/
structure Honest (rx : Rx) (n total : Nat) (items : List (Nat × Nat)) : Prop where
  comp   : rx.comp hdrPattern = true
  single : ∀ r, items = [r] → ∀ l ∈ singleLines total r, rx.hdr (cstr l) = none
  multi  : items.length ≠ 1 → ∀ len l0 l1 l2 l3, mpLines n len = [l0, l1, l2, l3] →
             (∀ l ∈ [l0, l2, l3], rx.hdr (cstr l) = none) ∧
             ∃ so eo, rx.hdr (cstr l1) = some (so, eo) ∧ so ≤ eo ∧ eo ≤ (cstr l1).length ∧ boundaryOf (cstr l1) so eo = boundary n
  compP  : rx.comp (partPattern (boundary n)) = true
  compE  : rx.comp (endPattern (boundary n)) = true
  parts  : ∀ r ∈ items, r.1 ≤ r.2 → r.2 + 1 < W64 → C05.RxFinds rx (partPattern (boundary n)) (partHdr n total r) (r.2 - r.1 + 1)

/-- after the last space of the subject: `<a>-<b>/<total>…` -/
def refPart (s : Bytes) : Nat × Nat × Nat × Nat :=
  let k := (s.reverse.takeWhile (· ≠ 32)).length
  let start := s.length - k
  let D := s.drop start
  let a := (D.takeWhile (· ≠ 45)).length
  let b := ((D.drop (a + 1)).takeWhile (· ≠ 47)).length
  (start, start + a, start + a + 1, start + a + 1 + b)

/-- a regex oracle that reads the reference server's responses -/
def refRx : Rx where
  comp := fun _ => true
  hdr := fun s => if bMP.isPrefixOf s then some (bMP.length, s.length - 2) else none
  part := fun _ s => some (refPart s)
  endm := fun _ _ => true

theorem parseFold_dec (n : Nat) (acc : Nat) :
    (dec n).foldl (fun a c => (a * 10 + (c.toNat + W64 - 48)) % W64) (acc % W64) =
      (Nat.ofDigitChars 10 (Nat.toDigits 10 n) acc) % W64 := by
  unfold dec
  have hdig : ∀ c ∈ Nat.toDigits 10 n, c.isDigit := fun c hc => Nat.isDigit_of_mem_toDigits (by decide) (by decide) hc
  generalize Nat.toDigits 10 n = l at hdig
  induction l generalizing acc with
  | nil => simp [Nat.ofDigitChars]
  | cons c l ih =>
    obtain ⟨h48, h57, hb⟩ := digit_byte c (hdig c List.mem_cons_self)
    simp only [List.map_cons, List.foldl_cons, Nat.ofDigitChars_cons]
    rw [hb]
    have hstep : (acc % W64 * 10 + (c.toNat + W64 - 48)) % W64 = (10 * acc + (c.toNat - '0'.toNat)) % W64 := by
      rw [show '0'.toNat = 48 from rfl, show c.toNat + W64 - 48 = (c.toNat - 48) + W64 by omega, ← Nat.add_assoc,
        Nat.add_mod_right, Nat.add_mod, Nat.mul_mod, Nat.mod_mod, ← Nat.mul_mod, ← Nat.add_mod, Nat.mul_comm]
    rw [hstep]
    exact ih _ (fun x hx => hdig x (List.mem_cons_of_mem _ hx))

theorem parseNum_dec (pre post : Bytes) (n : Nat) :
    parseNum (pre ++ dec n ++ post) pre.length (pre.length + (dec n).length) = n % W64 := by
  unfold parseNum
  rw [Nat.add_sub_cancel_left, show ((pre ++ dec n ++ post).drop pre.length).take (dec n).length = dec n from
    Reader.fileRead_append_self pre (dec n) post]
  have := parseFold_dec n 0
  simp only [Nat.zero_mod] at this
  rw [this, Nat.ofDigitChars_ten_toDigits]

theorem takeWhile_stop {p : UInt8 → Bool} (l1 l2 : Bytes) (x : UInt8) (h1 : ∀ y ∈ l1, p y = true) (hx : p x = false) :
    (l1 ++ x :: l2).takeWhile p = l1 := by
  rw [List.takeWhile_append_of_pos h1, List.takeWhile_cons_of_neg (by rw [hx]; decide), List.append_nil]

/-- what `refPart` finds in `P ␣ A - B / T` when no later space occurs and the separators are the first of their kind -/
theorem refPart_spec (P A Bd T : Bytes) (hA32 : ∀ y ∈ A, y ≠ 32) (hB32 : ∀ y ∈ Bd, y ≠ 32) (hT32 : ∀ y ∈ T, y ≠ 32)
    (hA45 : ∀ y ∈ A, y ≠ 45) (hB47 : ∀ y ∈ Bd, y ≠ 47) :
    refPart (P ++ 32 :: (A ++ 45 :: (Bd ++ 47 :: T))) =
      (P.length + 1, P.length + 1 + A.length, P.length + 1 + A.length + 1, P.length + 1 + A.length + 1 + Bd.length) := by
  let D' : Bytes := A ++ 45 :: (Bd ++ 47 :: T)
  have hD32 : ∀ y ∈ D', y ≠ 32 := by
    simp only [D', List.forall_mem_append, List.forall_mem_cons]
    exact ⟨hA32, by decide, hB32, by decide, hT32⟩
  have hrev : (P ++ 32 :: D').reverse = D'.reverse ++ 32 :: P.reverse := by simp
  have hk : ((P ++ 32 :: D').reverse.takeWhile (· ≠ 32)).length = D'.length := by
    rw [hrev, takeWhile_stop D'.reverse P.reverse 32 (by intro y hy; simpa using hD32 y (List.mem_reverse.mp hy)) (by simp)]
    simp
  have hlen : (P ++ 32 :: D').length - D'.length = P.length + 1 := by simp; omega
  have hdrop : (P ++ 32 :: D').drop (P.length + 1) = D' := drop_add (a := [32]) List.drop_left rfl
  have ha : (D'.takeWhile (· ≠ 45)).length = A.length := by
    rw [takeWhile_stop A _ 45 (by intro y hy; simpa using hA45 y hy) (by simp)]
  have hb : ((D'.drop (A.length + 1)).takeWhile (· ≠ 47)).length = Bd.length := by
    have hd : D'.drop (A.length + 1) = Bd ++ 47 :: T := drop_add (a := [45]) List.drop_left rfl
    rw [hd, takeWhile_stop Bd _ 47 (by intro y hy; simpa using hB47 y hy) (by simp)]
  show refPart (P ++ 32 :: D') = _
  unfold refPart
  simp only [hk, hlen, hdrop, ha, hb]

def bCR0 : Bytes := bCR.dropLast

theorem bCR_split : bCR = bCR0 ++ [32] := by decide +kernel

theorem boundary_no0 (n : Nat) : ∀ b ∈ boundary n, b ≠ 0 :=
  fun b hb => by
    have hbase : ∀ z ∈ bBase, z ≠ 0 := by decide +kernel
    rcases List.mem_append.mp hb with h | h
    · exact hbase b h
    · exact dec_ne n 0 (by decide +kernel) b h

/-- `W64` as a numeral, for the reader of the bounds `… < W64`; the proofs treat `W64` as an atom -/
theorem w64_val : W64 = 18446744073709551616 := by decide

theorem cstr_append_no0 (a b : Bytes) (ha : ∀ y ∈ a, y ≠ 0) : cstr (a ++ b) = a ++ cstr b :=
  List.takeWhile_append_of_pos fun y hy => decide_eq_true (ha y hy)

theorem refRx_finds_shape (pp P : Bytes) (a b t : Nat) (hP : ∀ y ∈ P, y ≠ 0) (h1 : a ≤ b) (h2 : b + 1 < W64) :
    C05.RxFinds refRx pp (P ++ 32 :: (dec a ++ 45 :: (dec b ++ 47 :: dec t))) (b - a + 1) := by
  generalize hT : dec t ++ [13, 10, 13] = T
  have hT32 : ∀ y ∈ T, y ≠ 32 := hT ▸ List.forall_mem_append.mpr ⟨dec_ne _ 32 (by decide), by decide⟩
  have hT0 : ∀ y ∈ T, y ≠ 0 := hT ▸ List.forall_mem_append.mpr ⟨dec_ne _ 0 (by decide), by decide⟩
  -- the C string handed to regexec
  have hS : (P ++ 32 :: (dec a ++ 45 :: (dec b ++ 47 :: dec t))) ++ [13, 10, 13, 0] =
      (P ++ 32 :: (dec a ++ 45 :: (dec b ++ 47 :: T))) ++ [0] := by
    rw [← hT]; simp
  have hno0 : ∀ y ∈ P ++ 32 :: (dec a ++ 45 :: (dec b ++ 47 :: T)), y ≠ 0 := by
    simp only [List.forall_mem_append, List.forall_mem_cons]
    exact ⟨hP, by decide, dec_ne _ 0 (by decide), by decide, dec_ne _ 0 (by decide), by decide, hT0⟩
  have hcstr := cstr_append_no0 _ [0] hno0
  rw [show cstr [0] = [] from rfl, List.append_nil] at hcstr
  have hspec := refPart_spec P (dec a) (dec b) T (dec_ne _ 32 (by decide)) (dec_ne _ 32 (by decide)) hT32
    (dec_ne _ 45 (by decide)) (dec_ne _ 47 (by decide))
  unfold C05.RxFinds
  rw [hS, hcstr]
  refine ⟨P.length + 1, P.length + 1 + (dec a).length, P.length + 1 + (dec a).length + 1,
    P.length + 1 + (dec a).length + 1 + (dec b).length, congrArg some hspec, by omega, ?_, by omega, ?_, ?_⟩
  · simp only [List.length_append, List.length_cons]; omega
  · simp only [List.length_append, List.length_cons]; omega
  · have p1 := parseNum_dec (P ++ [32]) (45 :: (dec b ++ 47 :: T)) a
    have p2 := parseNum_dec (P ++ [32] ++ dec a ++ [45]) (47 :: T) b
    rw [show (P ++ ([32] : Bytes)).length = P.length + 1 from List.length_append] at p1
    have l2 : (P ++ ([32] : Bytes) ++ dec a ++ ([45] : Bytes)).length = P.length + 1 + (dec a).length + 1 := by
      simp only [List.length_append, List.length_cons, List.length_nil]
    rw [l2] at p2
    simp only [List.append_assoc, List.cons_append, List.nil_append] at p1 p2
    rw [p1, p2, Nat.mod_eq_of_lt (show a < W64 by omega), Nat.mod_eq_of_lt (show b < W64 by omega),
      show b + W64 - a + 1 = (b - a + 1) + W64 by omega, Nat.add_mod_right]
    exact Nat.mod_eq_of_lt (by omega)

theorem refRx_finds (pp : Bytes) (n total : Nat) (r : Nat × Nat) (h1 : r.1 ≤ r.2) (h2 : r.2 + 1 < W64) :
    C05.RxFinds refRx pp (partHdr n total r) (r.2 - r.1 + 1) := by
  have hS : partHdr n total r = (bDelim ++ boundary n ++ [13, 10] ++ bCT ++ [13, 10] ++ bCR0) ++
      32 :: (dec r.1 ++ 45 :: (dec r.2 ++ 47 :: dec total)) := by
    simp only [partHdr, bCR_split, List.append_assoc, List.cons_append, List.nil_append]
  rw [hS]
  refine refRx_finds_shape pp _ r.1 r.2 total ?_ h1 h2
  simp only [List.forall_mem_append]
  exact ⟨⟨⟨⟨⟨by decide +kernel, boundary_no0 n⟩, by decide +kernel⟩, by decide +kernel⟩, by decide +kernel⟩, by decide +kernel⟩

theorem hdr_status : refRx.hdr (cstr bStatus) = none := by decide
theorem hdr_ctline : refRx.hdr (cstr bCTline) = none := by decide +kernel
theorem hdr_crlf : refRx.hdr (cstr [13, 10]) = none := by decide +kernel

/-- a line that begins with `P`, of which `bMP` is no prefix whatever follows, holds no boundary for `refRx` -/
theorem hdr_other_line (P X : Bytes) (h0 : ∀ y ∈ P, y ≠ 0) (hp : ∀ Y, bMP.isPrefixOf (P ++ Y) = false) :
    refRx.hdr (cstr (P ++ X)) = none := by
  rw [cstr_append_no0 P X h0]
  simp only [refRx, hp]
  rfl

theorem hdr_boundary_any (c : UInt8) (b' : Bytes) (hq : c ≠ 0x22) (h0 : ∀ y ∈ c :: b', y ≠ 0) :
    ∃ so eo, refRx.hdr (cstr (bMP ++ (c :: b') ++ [13, 10])) = some (so, eo) ∧ so ≤ eo ∧
      eo ≤ (cstr (bMP ++ (c :: b') ++ [13, 10])).length ∧ boundaryOf (cstr (bMP ++ (c :: b') ++ [13, 10])) so eo = c :: b' := by
  generalize hb : c :: b' = b at h0 ⊢
  have hbl : 0 < b.length := by rw [← hb]; exact Nat.succ_pos _
  have hc : cstr (bMP ++ b ++ [13, 10]) = bMP ++ b ++ [13, 10] := by
    have := cstr_append_no0 (bMP ++ b ++ [13, 10]) []
      (List.forall_mem_append.mpr ⟨List.forall_mem_append.mpr ⟨by decide +kernel, h0⟩, by decide +kernel⟩)
    rwa [List.append_nil, show cstr [] = [] from rfl, List.append_nil] at this
  have hpre : bMP.isPrefixOf (bMP ++ b ++ [13, 10]) = true := by
    rw [List.isPrefixOf_iff_prefix, List.append_assoc]
    exact List.prefix_append _ _
  have hlen : (bMP ++ b ++ [13, 10]).length - 2 - bMP.length = b.length := by
    simp only [List.length_append, List.length_cons, List.length_nil]; omega
  rw [hc]
  refine ⟨bMP.length, (bMP ++ b ++ [13, 10]).length - 2, by simp only [refRx, hpre, ↓reduceIte], by omega, by omega, ?_⟩
  have hfirst : (bMP ++ b ++ [13, 10]).getD bMP.length 0 = c := by
    rw [List.append_assoc, List.getD_eq_getElem?_getD, List.getElem?_append_right (Nat.le_refl _), Nat.sub_self, ← hb]
    rfl
  unfold boundaryOf
  simp only [hlen, hfirst]
  rw [if_neg (fun h => hq h.1), List.append_assoc, List.drop_left, List.take_left]

/-- `Honest` is satisfiable — by one oracle, for every transfer number, file length and request -/
theorem refRx_honest (n total : Nat) (items : List (Nat × Nat)) : Honest refRx n total items where
  comp := rfl
  single := by
    intro r _ l hl
    simp only [singleLines, List.mem_cons, List.mem_nil_iff, or_false] at hl
    rcases hl with rfl | rfl | rfl | rfl
    · exact hdr_status
    · exact hdr_ctline
    · simp only [List.append_assoc]
      exact hdr_other_line bCR _ (by decide +kernel) fun Y => rfl
    · exact hdr_crlf
  multi := by
    intro _ len l0 l1 l2 l3 hl
    obtain ⟨rfl, rfl, rfl, rfl⟩ := hl
    -- 51 = '3', the first byte of `bBase`: the boundary is `51 :: _`
    refine ⟨?_, hdr_boundary_any 51 _ (by decide) (boundary_no0 n)⟩
    intro l hl
    simp only [List.mem_cons, List.mem_nil_iff, or_false] at hl
    rcases hl with rfl | rfl | rfl
    · exact hdr_status
    · simp only [List.append_assoc]
      exact hdr_other_line bCL _ (by decide +kernel) fun Y => rfl
    · exact hdr_crlf
  compP := rfl
  compE := rfl
  parts := fun r _ h1 h2 => refRx_finds _ n total r h1 h2

end Zck.C04
